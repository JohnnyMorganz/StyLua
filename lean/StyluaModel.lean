import StyluaModel.Basic
import StyluaModel.Props.C01
import StyluaModel.Props.C02
import StyluaModel.Props.C03
import StyluaModel.Props.C04
import StyluaModel.Props.C05
import StyluaModel.Props.C06
import StyluaModel.Props.C07
import StyluaModel.Props.C08
import StyluaModel.Props.C09
import StyluaModel.Props.C10
import StyluaModel.Props.C11
import StyluaModel.Props.C12
import StyluaModel.Props.C13
import StyluaModel.Props.C15
import StyluaModel.Props.C16
import StyluaModel.Props.C17
import StyluaModel.Props.C18
import StyluaModel.Props.C19
import StyluaModel.Props.C20
