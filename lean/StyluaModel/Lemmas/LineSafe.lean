/- Line safety (Model/Semi.lean `lineSafe`): no line comment is followed by anything but a line ending, so none swallows
what is printed after it. For Props/C03.lean. -/
import StyluaModel.Lemmas.Comments
namespace StyluaModel.LineSafe
open StyluaModel.Trivia StyluaModel.Semi

def isLine : Out → Bool
  | .comment .line _ => true
  | _ => false

def startsNl : List Out → Bool
  | .newline :: _ => true
  | _ => false

theorem lineSafe_cons (x : Out) (r : List Out) :
    lineSafe (x :: r) = ((!isLine x || startsNl r) && lineSafe r) := by
  cases x with
  | comment k t =>
    cases k with
    | line =>
      cases r with
      | nil => rfl
      | cons y ys => cases y <;> rfl
    | _ => rfl
  | _ => rfl

theorem startsNl_append (a b : List Out) (h : startsNl a = true) : startsNl (a ++ b) = true := by
  cases a with
  | nil => cases h
  | cons x r =>
    cases x with
    | newline => rfl
    | _ => cases h

theorem lineSafe_append (a b : List Out) (ha : lineSafe a = true) (hb : lineSafe b = true) :
    lineSafe (a ++ b) = true := by
  induction a with
  | nil => exact hb
  | cons x r ih =>
    simp only [List.cons_append, lineSafe_cons, Bool.and_eq_true, Bool.or_eq_true] at ha ⊢
    exact ⟨ha.1.imp_right (startsNl_append r b), ih ha.2⟩

theorem loadAux_leading_safe (eol : List Char) (nl : Nat) (skip : Bool) (t : List Triv) :
    lineSafe (loadAux eol .leading nl skip t) = true := by
  fun_induction loadAux eol .leading nl skip t with
  | case1 => rfl
  | case3 nl skip rest _ _ ih => exact lineSafe_append _ _ (by split <;> rfl) ih  -- at most one line ending is printed
  | case5 _ _ _ _ h => cases h
  | case6 nl skip k t rest ih => exact lineSafe_append _ _ (by cases k <;> rfl) ih
  | _ => assumption

theorem load_leading_safe (eol : List Char) (t : List Triv) : lineSafe (load eol .leading t) = true :=
  loadAux_leading_safe eol 0 false t

theorem lines_safe (l : List Out) : lineSafe (l.flatMap (fun c => [Out.indent, c, Out.newline])) = true := by
  induction l with
  | nil => rfl
  | cons x r ih => simp [lineSafe_cons, isLine, startsNl, ih]

open StyluaModel.HangOp

theorem startsNl_ownLine (l R : List Out) (h : startsNl R = true) : startsNl (ownLine l ++ R) = true := by
  cases l with
  | nil => exact h
  | cons x r => rfl

theorem ownLine_safe (l R : List Out) (hn : startsNl R = true) (hR : lineSafe R = true) :
    lineSafe (ownLine l ++ R) = true := by
  induction l with
  | nil => exact hR
  | cons x r ih =>
    have hs := startsNl_ownLine r R hn
    simp only [ownLine] at ih hs
    simp [ownLine, lineSafe_cons, isLine, ih, hs]

open StyluaModel.EndToken

/-- line safety read from the back, as format_end_token scans the list: `nn` = the element that follows (in forward
order) is a line ending -/
def srAux : (nn : Bool) → List Out → Bool
  | _, [] => true
  | nn, x :: r => (!isLine x || nn) && srAux (startsNl [x]) r

theorem sr_spec (l : List Out) : ∀ (tail : List Out),
    lineSafe (l.reverse ++ tail) = (srAux (startsNl tail) l && lineSafe tail) := by
  induction l with
  | nil => intro tail; rfl
  | cons x r ih =>
    intro tail
    have hx : startsNl (x :: tail) = startsNl [x] := by cases x <;> rfl
    rw [List.reverse_cons, List.append_assoc, List.singleton_append, ih, lineSafe_cons, srAux, hx,
      ← Bool.and_assoc, Bool.and_comm (srAux _ r)]

theorem sr_rev (l : List Out) : lineSafe l.reverse = srAux false l := by
  rw [← List.append_nil l.reverse, sr_spec]; exact Bool.and_true _

/-- what follows in forward order only matters to a line comment -/
theorem srAux_congr (nn nn' : Bool) (r : List Out) (h : headIsComment r = false) : srAux nn r = srAux nn' r := by
  cases r with
  | nil => rfl
  | cons y ys =>
    cases y with
    | comment k t => cases h
    | _ => rfl

/-- dropping line endings that do not follow a comment keeps line safety -/
theorem scan_sr (stop nn : Bool) (l : List Out) (h : srAux nn l = true) : srAux nn (scan stop l) = true := by
  fun_induction scan stop l generalizing nn with
  | case1 => exact h
  | case2 stop rest hc ih =>  -- the line ending that is dropped
    exact ih nn ((srAux_congr nn true rest (by simpa using (Bool.and_eq_true_iff.1 hc).2)).trans h)
  | case3 stop rest hc ih => exact ih true h
  | _ =>
    rename_i ih
    simp only [srAux, Bool.and_eq_true] at h ⊢
    exact ⟨h.1, ih _ h.2⟩

end StyluaModel.LineSafe
