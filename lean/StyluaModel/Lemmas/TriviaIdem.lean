/- Helper lemmas for Props/C06.lean: load_token_trivia applied to its own (re-tokenised) output. -/
import StyluaModel.Model.Trivia
namespace StyluaModel.TriviaIdem
open StyluaModel.Trivia

/-- the printed trivia read again by the tokenizer: a line ending is whitespace with a newline, indentation
and the single blank are whitespace without one, comments are themselves -/
def relex : List Out → List Triv
  | [] => []
  | .newline :: r => .ws true :: relex r
  | .indent :: r => .ws false :: relex r
  | .space :: r => .ws false :: relex r
  | .comment k t :: r => .comment k t :: relex r

theorem relex_append (a b : List Out) : relex (a ++ b) = relex a ++ relex b := by
  fun_induction relex a <;> simp only [List.cons_append, List.nil_append, relex, *]

/-- every comment text is already in the form format_token gives it -/
def FixTexts (eol : List Char) : List Triv → Prop
  | [] => True
  | .ws _ :: r => FixTexts eol r
  | .comment k t :: r => fmtText eol k (fmtText eol k t) = fmtText eol k t ∧ FixTexts eol r

/-- a formatted comment that is read again and loaded again in the same position is formatted once more, and the
white space put around it is used up: the loader goes on in its initial state -/
theorem loadAux_relex_fmtComment (eol : List Char) (p : Pos) (k : CKind) (t : List Char) (nl : Nat) (R : List Triv) :
    loadAux eol p nl false (relex (fmtComment eol p k t) ++ R) =
      fmtComment eol p k (fmtText eol k t) ++ loadAux eol p 0 false R := by
  cases p with
  | leading => cases k <;> rfl
  | trailing =>
    cases k with
    | shebang => simp [fmtComment, relex, loadAux]
    | _ => rfl

theorem fmtComment_fix {eol : List Char} {k : CKind} {t : List Char} (p : Pos)
    (h : fmtText eol k (fmtText eol k t) = fmtText eol k t) :
    fmtComment eol p k (fmtText eol k t) = fmtComment eol p k t := by
  simp only [fmtComment, h]

/-- the second pass starts a run of blank lines exactly when the first did (`nl2 = 0 ↔ nl = 0`); `skip` is only ever
set by a comment, which also resets `nl` -/
theorem idem_aux (eol : List Char) (nl : Nat) (skip : Bool) (t : List Triv) (nl2 : Nat)
    (h1 : nl2 = 0 ↔ nl = 0) (h2 : skip = true → nl = 0) (hf : FixTexts eol t) :
    loadAux eol .leading nl2 false (relex (loadAux eol .leading nl skip t)) = loadAux eol .leading nl skip t := by
  fun_induction loadAux eol .leading nl skip t generalizing nl2 with
  | case1 => rfl
  | case2 nl skip hasNl rest _ h ih =>  -- the comment's own line ending
    exact ih nl2 (h2 (Bool.and_eq_true_iff.1 h).1 ▸ h1) Bool.noConfusion hf
  | case3 nl skip rest _ _ ih =>
    -- a line ending is printed for the first of a run of blank lines only, and read back as such
    by_cases hz : nl = 0
    · obtain rfl := h1.mpr hz
      subst hz
      exact congrArg (Out.newline :: ·) (ih 1 Iff.rfl Bool.noConfusion hf)
    · rw [if_neg hz]
      exact ih nl2 ⟨fun h => absurd (h1.1 h) hz, nofun⟩ Bool.noConfusion hf
  | case4 nl skip hasNl rest _ _ _ ih => exact ih nl2 h1 Bool.noConfusion hf
  | case5 _ _ _ _ h => cases h
  | case6 nl skip k txt rest ih =>
    simp only [decide_true, relex_append, loadAux_relex_fmtComment, fmtComment_fix _ hf.1]
    exact congrArg _ (ih 0 Iff.rfl (fun _ => rfl) hf.2)

theorem load_idem (eol : List Char) (t : List Triv) (h : FixTexts eol t) :
    load eol .leading (relex (load eol .leading t)) = load eol .leading t :=
  idem_aux eol 0 false t 0 Iff.rfl Bool.noConfusion h

theorem nextIsBlock_relex_cons (o : Out) (r : List Out) :
    nextIsBlock (relex (o :: r)) = match o with | .comment (.block _) _ => true | _ => false := by
  cases o with
  | newline => rfl
  | indent => rfl
  | space => rfl
  | comment k t => cases k <;> rfl

theorem nextIsBlock_relex_load (eol : List Char) (r : List Triv) (h : nextIsBlock r = true) :
    nextIsBlock (relex (load eol .trailing r)) = true := by
  unfold nextIsBlock at h
  split at h
  · rfl
  · cases h

/-- in trailing position the loader has no state: `nl` and `skip` are never read -/
theorem load_trailing_idem (eol : List Char) (t : List Triv) (h : FixTexts eol t) :
    load eol .trailing (relex (load eol .trailing t)) = load eol .trailing t := by
  induction t with
  | nil => rfl
  | cons x r ih =>
    cases x with
    | ws b =>
      have hl : load eol .trailing (.ws b :: r) =
          (if (nextIsBlock r && !b) = true then [Out.space] else []) ++ load eol .trailing r := rfl
      rw [hl]
      by_cases hb : (nextIsBlock r && !b) = true
      · -- the space is followed by the block comment again
        rw [if_pos hb]
        show (if (nextIsBlock (relex (load eol .trailing r)) && !false) = true then [Out.space] else []) ++
          load eol .trailing (relex (load eol .trailing r)) = _
        rw [nextIsBlock_relex_load eol r (Bool.and_eq_true_iff.1 hb).1, ih h]
        rfl
      · rw [if_neg hb]
        exact ih h
    | comment k txt =>
      show loadAux eol .trailing 0 false (relex (fmtComment eol .trailing k txt ++ load eol .trailing r)) = _
      rw [relex_append, loadAux_relex_fmtComment, fmtComment_fix _ h.1]
      exact congrArg _ (ih h.2)

end StyluaModel.TriviaIdem
