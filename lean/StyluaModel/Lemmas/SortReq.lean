import StyluaModel.Model.SortReq
namespace StyluaModel.SortLemmas
open StyluaModel.SortReq

/-- items of a reversed partition (as `step` builds it), in source order -/
def flatR : List Part → List Item
  | [] => []
  | p :: ps => flatR ps ++ p.items.reverse

/-- every part produced by `step` is homogeneous: a group holds statements of its kind only,
an `other` part holds none of either kind -/
def PartOK : Part → Prop
  | .group k is => ∀ i ∈ is, i.kind = some k
  | .other is => ∀ i ∈ is, i.kind = none

/-- one step of the partition loop either adds the statement to the part built last, which keeps its kind, or opens a
new part with it -/
theorem step_cases (ps : List Part) (it : Item) :
    (∃ p p' rest, ps = p :: rest ∧ step ps it = p' :: rest ∧ p'.items = it :: p.items ∧ (PartOK p → PartOK p')) ∨
    (∃ p, step ps it = p :: ps ∧ p.items = [it] ∧ PartOK p) := by
  have cons {P : Item → Prop} {is : List Item} (h0 : P it) (h : ∀ i ∈ is, P i) : ∀ i ∈ it :: is, P i :=
    List.forall_mem_cons.2 ⟨h0, h⟩
  have one {P : Item → Prop} (h0 : P it) : ∀ i ∈ [it], P i := fun _ hi => List.mem_singleton.1 hi ▸ h0
  unfold step
  split
  · rename_i k hk
    split
    · split
      · rename_i hc
        exact .inl ⟨_, _, _, rfl, rfl, rfl, cons (hc.1 ▸ hk)⟩
      · exact .inr ⟨.group k [it], rfl, rfl, one hk⟩
    · exact .inr ⟨.group k [it], rfl, rfl, one hk⟩
  · rename_i hk
    split
    · exact .inl ⟨_, _, _, rfl, rfl, rfl, cons hk⟩
    · exact .inr ⟨.other [it], rfl, rfl, one hk⟩
theorem flatR_step (ps : List Part) (it : Item) : flatR (step ps it) = flatR ps ++ [it] := by
  rcases step_cases ps it with ⟨p, p', rest, rfl, h, hi, _⟩ | ⟨p, h, hi, _⟩ <;> simp [h, flatR, hi]

theorem flatR_foldl (ps : List Part) (items : List Item) :
    flatR (items.foldl step ps) = flatR ps ++ items := by
  induction items generalizing ps with
  | nil => simp
  | cons it rest ih => simp [List.foldl_cons, ih, flatR_step]

def flat (ps : List Part) : List Item := ps.flatMap Part.items

theorem flat_fix (ps : List Part) :
    flat ((ps.map unrev).reverse) = flatR ps := by
  induction ps with
  | nil => rfl
  | cons p ps ih =>
    simp only [List.map_cons, List.reverse_cons, flat, List.flatMap_append, List.flatMap_cons,
      List.flatMap_nil, List.append_nil, flatR]
    unfold flat at ih
    rw [ih]
    cases p <;> rfl

theorem partition_flat (items : List Item) : flat (partition items) = items := by
  unfold partition
  rw [flat_fix, flatR_foldl]
  simp [flatR]

theorem keyLe_trans (a b c : Item) (h1 : keyLe a b = true) (h2 : keyLe b c = true) : keyLe a c = true := by
  simp only [keyLe, decide_eq_true_eq] at *
  exact List.le_trans h1 h2

theorem keyLe_total (a b : Item) : (keyLe a b || keyLe b a) = true := by
  simp only [keyLe, Bool.or_eq_true, decide_eq_true_eq]
  exact List.le_total a.key b.key

theorem sortPart_perm (v : Variant) (d : Bool) (p : Part) : (sortPart v d p).Perm p.items := by
  cases p with
  | other is => exact List.Perm.refl _
  | group k is =>
    simp only [sortPart, Part.items]
    split
    · exact List.mergeSort_perm is keyLe
    · exact List.Perm.refl _

theorem sortParts_perm (v : Variant) (d : Bool) (ps : List Part) : (sortParts v d ps).Perm (flat ps) := by
  induction ps generalizing d with
  | nil => exact List.Perm.refl _
  | cons p ps ih =>
    simp only [sortParts, flat, List.flatMap_cons]
    exact List.Perm.append (sortPart_perm v d p) (ih _)

theorem sortRequires_perm (v : Variant) (enabled : Bool) (items : List Item) :
    (sortRequires v enabled items).Perm items := by
  unfold sortRequires
  split
  · exact (sortParts_perm v false (partition items)).trans (.of_eq (partition_flat items))
  · exact .refl _

theorem sortPart_length (v : Variant) (d : Bool) (p : Part) : (sortPart v d p).length = p.items.length :=
  (sortPart_perm v d p).length_eq

/-- the parts stay in place: the output is the concatenation, part by part, of a
permutation of each part (so a statement never leaves its group, groups never merge, and
statements outside groups do not move) -/
inductive Blockwise : List (List Item) → List Part → Prop
  | nil : Blockwise [] []
  | cons {o : List Item} {p : Part} {os : List (List Item)} {ps : List Part} :
      o.Perm p.items → (∀ is, p = .other is → o = is) → Blockwise os ps → Blockwise (o :: os) (p :: ps)

theorem sortParts_blocks (v : Variant) (d : Bool) (ps : List Part) :
    ∃ outs : List (List Item), sortParts v d ps = outs.flatten ∧ Blockwise outs ps := by
  induction ps generalizing d with
  | nil => exact ⟨[], rfl, Blockwise.nil⟩
  | cons p ps ih =>
    obtain ⟨outs, h1, h2⟩ := ih (lastFlag d p.items)
    refine ⟨sortPart v d p :: outs, by simp [sortParts, h1], Blockwise.cons (sortPart_perm v d p) ?_ h2⟩
    intro is hp; subst hp; rfl

theorem sortPart_ignored (v : Variant) (d : Bool) (k : GKind) (is : List Item) (h : allNormal v d is = false) :
    sortPart v d (.group k is) = is := by
  simp [sortPart, h]

theorem allNormal_false_of_member (d : Bool) (is : List Item) (it : Item) (hm : it ∈ is)
    (h : it.lines.contains .ignore = true ∨ it.inRange = false) : allNormal repaired d is = false := by
  unfold allNormal
  simp only [repaired, if_true]
  induction is generalizing d with
  | nil => cases hm
  | cons x rest ih =>
    simp only [flagsAfter, List.zip_cons_cons, List.all_cons]
    rcases List.mem_cons.mp hm with rfl | hx
    · have : isNormal (Block.toggle d it.lines) it = false := by rcases h with h | h <;> simp only [isNormal, h, Bool.not_true, Bool.and_false, Bool.false_and]
      rw [this, Bool.false_and]
    · rw [ih _ hx, Bool.and_false]

theorem step_ok (ps : List Part) (it : Item) (h : ∀ p ∈ ps, PartOK p) : ∀ p ∈ step ps it, PartOK p := by
  rcases step_cases ps it with ⟨p, p', rest, rfl, hs, _, hok⟩ | ⟨p, hs, _, hok⟩ <;> rw [hs] <;> intro q hq
  · rcases List.mem_cons.mp hq with rfl | hq
    · exact hok (h p List.mem_cons_self)
    · exact h q (List.mem_cons_of_mem _ hq)
  · rcases List.mem_cons.mp hq with rfl | hq
    · exact hok
    · exact h q hq
theorem foldl_ok (ps : List Part) (items : List Item) (h : ∀ p ∈ ps, PartOK p) :
    ∀ p ∈ items.foldl step ps, PartOK p := by
  induction items generalizing ps with
  | nil => exact h
  | cons it rest ih => exact ih _ (step_ok ps it h)

theorem partition_ok (items : List Item) : ∀ p ∈ partition items, PartOK p := by
  intro p hp
  unfold partition at hp
  simp only [List.mem_reverse, List.mem_map] at hp
  obtain ⟨q, hq, rfl⟩ := hp
  have := foldl_ok [] items (by intro p hp; cases hp) q hq
  cases q <;> exact fun i hi => this i (List.mem_reverse.1 hi)

end StyluaModel.SortLemmas
