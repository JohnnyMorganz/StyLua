/-
Lemmas on string literal rewriting for Props/C04.lean (used also by C01, C02, C06).
The scanner is analysed once: `scan_rel` says which relations between a body and its rewriting it
respects; value preservation under either dialect, the character counts and idempotence are instances.
Each decoder is a machine in which a step that ends outside an escape sequence is a congruence, and
which reads a character that cannot continue an escape sequence as from its start state.
-/
import StyluaModel.Model.StrLit
import StyluaModel.Spec.StrVal

namespace StyluaModel.StrLitLemmas
open StyluaModel.StrLit StyluaModel.StrVal

theorem quote_cases {c : Char} (hq : isQuote c = true) {p : Char → Prop} (single : p '\'')
    (double : p '"') : p c := by
  rcases Bool.or_eq_true_iff.mp hq with h | h <;> rw [eq_of_beq h] <;> assumption

/-- a character that the Lua 5.1 reader and the tokenizer take for itself, with or without a
backslash in front: the rewriting may add or take away that backslash -/
structure Ordinary (c : Char) : Prop where
  digit : c.isDigit = false
  bs : (c == '\\') = false
  nl : (c == '\n' || c == '\r') = false
  esc : esc51 c = utf8 c

theorem quote_ordinary {c : Char} (hq : isQuote c = true) : Ordinary c := by
  apply quote_cases hq <;> constructor <;> decide +kernel

theorem unnec_ordinary {c : Char} (hn : necessary c = false) : Ordinary c := by
  simp only [necessary, Bool.or_eq_false_iff] at hn
  constructor <;> simp only [esc51, isSimpleEsc, hn, Bool.or_self, Bool.false_eq_true, if_false]

theorem emitQuote_eq (out : Q) (c : Char) :
    emitQuote out c = ['\\', c] ∨ emitQuote out c = [c] ∧ (c == qchar out) = false := by
  unfold emitQuote
  split
  · exact .inl rfl
  · exact .inr ⟨rfl, Bool.not_eq_true _ ▸ ‹_›⟩

/-- the side condition of the last case of `scan`, as `fun_induction` states it -/
theorem scan_unmatched {c : Char} {r : List Char} (hne : ∀ c' r', c = '\\' → r = c' :: r' → False) :
    (c == '\\') = false ∨ c = '\\' ∧ r = [] := by
  by_cases hb : c = '\\'
  · cases r with
    | nil => exact .inr ⟨hb, rfl⟩
    | cons d r => exact absurd rfl (hne d r hb)
  · exact .inl (beq_eq_false_iff_ne.mpr hb)

/-- `scan` takes its input to a related output under every preorder on bodies that is a congruence for
an unescaped character and for a complete escape and that cannot tell `\q` from `q`, nor `\c` from `c`
where the backslash is unnecessary -/
theorem scan_rel (out : Q) {R : List Char → List Char → Prop} (refl : ∀ r, R r r)
    (trans : ∀ {a b c}, R a b → R b c → R a c)
    (plain : ∀ c r r', (c == '\\') = false → R r r' → R (c :: r) (c :: r'))
    (esc : ∀ c r r', R r r' → R ('\\' :: c :: r) ('\\' :: c :: r'))
    (unq : ∀ c r, isQuote c = true → R ('\\' :: c :: r) (c :: r) ∧ R (c :: r) ('\\' :: c :: r))
    (drop : ∀ c r, isQuote c = false → necessary c = false → R ('\\' :: c :: r) (c :: r)) :
    ∀ s, R s (scan out s) := by
  have quote : ∀ c r r', isQuote c = true → R r r' → R (c :: r) (emitQuote out c ++ r') := by
    intro c r r' hq h
    have h' := plain c r r' (quote_ordinary hq).bs h
    rcases emitQuote_eq out c with e | ⟨e, -⟩ <;> rw [e]
    · exact trans h' (unq c r' hq).2
    · exact h'
  intro s
  fun_induction scan out s with
  | case1 => exact refl []
  | case2 c r hq ih => exact trans (unq c r hq).1 (quote c r _ hq ih)
  | case3 c r _ _ ih => exact esc c r _ ih
  | case4 c r hq hn ih =>
    have hn := Bool.not_eq_true _ ▸ hn
    exact trans (drop c r (Bool.not_eq_true _ ▸ hq) hn) (plain c r _ (unnec_ordinary hn).bs ih)
  | case5 c r _ hq ih => exact quote c r _ hq ih
  | case6 c r hne _ ih =>
    rcases scan_unmatched hne with hb | ⟨rfl, rfl⟩
    · exact plain c r _ hb ih
    · exact refl _

/-- `r'` decodes like `r` from the two decoder states in which the scanner can be at a match
boundary (all but the one right after a backslash) -/
def Sim51 (r r' : List Char) : Prop :=
  drun .norm r' = drun .norm r ∧ ∀ n acc, drun (.dig n acc) r' = drun (.dig n acc) r

/-- a character that is no digit ends a pending `\ddd`, and is then read in state `.norm`; so
between bodies that begin with such characters it is enough to compare the runs from `.norm` -/
theorem sim51_of_norm {c c' : Char} (hc : c.isDigit = false) (hc' : c'.isDigit = false) {r r' : List Char}
    (h : drun .norm (c' :: r') = drun .norm (c :: r)) : Sim51 (c :: r) (c' :: r') := by
  have brk {c : Char} (hc : c.isDigit = false) n acc cs :
      drun (.dig n acc) (c :: cs) = acc :: drun .norm (c :: cs) := by
    simp only [drun, hc, Bool.false_and, Bool.false_eq_true, if_false]
  exact ⟨h, fun n acc => by rw [brk hc, brk hc', h]⟩

theorem sim51_unesc {c : Char} (h : Ordinary c) (r : List Char) :
    Sim51 ('\\' :: c :: r) (c :: r) ∧ Sim51 (c :: r) ('\\' :: c :: r) := by
  have e : drun .norm ('\\' :: c :: r) = drun .norm (c :: r) := by
    simp only [drun, beq_self_eq_true, if_true, h.digit, h.bs, h.esc, Bool.false_eq_true, if_false]
  exact ⟨sim51_of_norm rfl h.digit e.symm, sim51_of_norm h.digit rfl e⟩

theorem scan_sim51 (out : Q) (s : List Char) : Sim51 s (scan out s) := by
  refine scan_rel out (R := Sim51) (fun _ => ⟨rfl, fun _ _ => rfl⟩)
    (fun h1 h2 => ⟨h2.1.trans h1.1, fun n acc => (h2.2 n acc).trans (h1.2 n acc)⟩) ?_ ?_
    (fun _ r hq => sim51_unesc (quote_ordinary hq) r)
    (fun _ r _ hn => (sim51_unesc (unnec_ordinary hn) r).1) s
  · intro c r r' hc h
    constructor
    · simp only [drun, hc, Bool.false_eq_true, if_false, h.1]
    · intro n acc
      simp only [drun, hc, Bool.false_eq_true, if_false, h.1, h.2]
  · intro c r r' h
    refine sim51_of_norm rfl rfl ?_
    simp only [drun, beq_self_eq_true, if_true, h.1, h.2]

theorem cons?_mono {xs : List Nat} {o o' : Option (List Nat)} {v : List Nat}
    (h : ∀ w, o = some w → o' = some w) (hv : cons? xs o = some v) : cons? xs o' = some v := by
  cases o with
  | none => cases hv
  | some w => rw [h w rfl]; exact hv

theorem cons?_nil (o : Option (List Nat)) : cons? [] o = o := by cases o <;> rfl

theorem cons?_cons? (xs ys : List Nat) (o : Option (List Nat)) :
    cons? xs (cons? ys o) = cons? (xs ++ ys) o := by
  cases o <;> simp only [cons?, List.append_assoc]

/-- `drun2` as a transducer: what one character makes it emit and the state it goes to, `none` where
`drun2` rejects -/
def step2 : D2 → Char → Option (List Nat × D2)
  | .norm, c =>
      if c == '\\' then some ([], .esc)
      else if c == '\n' || c == '\r' then none
      else some (utf8 c, .norm)
  | .zskip, c =>
      if isSpace52 c then some ([], .zskip)
      else if c == '\\' then some ([], .esc)
      else some (utf8 c, .norm)
  | .esc, c =>
      if c.isDigit then some ([], .dig 1 (dval c))
      else if isSimpleEsc c then some ([escVal c], .norm)
      else if c == '\\' || c == '"' || c == '\'' then some (utf8 c, .norm)
      else if c == '\n' || c == '\r' then some ([10], .norm)
      else if c == 'x' then some ([], .hex1)
      else if c == 'z' then some ([], .zskip)
      else if c == 'u' then some ([], .u0)
      else none
  | .dig n acc, c =>
      if c.isDigit && n < 3 then some ([], .dig (n+1) (acc * 10 + dval c))
      else if c == '\\' then some ([acc], .esc)
      else if c == '\n' || c == '\r' then none
      else some ([acc] ++ utf8 c, .norm)
  | .hex1, c => match hexVal c with
      | some h => some ([], .hex2 h)
      | none => none
  | .hex2 hi, c => match hexVal c with
      | some l => some ([hi * 16 + l], .norm)
      | none => none
  | .u0, c => if c == '{' then some ([], .uhex false 0) else none
  | .uhex any acc, c =>
      if c == '}' then (if any then some (uVal acc, .norm) else none)
      else match hexVal c with
        | some h => some ([], .uhex true (acc * 16 + h))
        | none => none

def next (cs : List Char) : Option (List Nat × D2) → Option (List Nat)
  | some (xs, st) => cons? xs (drun2 st cs)
  | none => none

theorem drun2_cons (st : D2) (c : Char) (cs : List Char) :
    drun2 st (c :: cs) = next cs (step2 st c) := by
  have next_some xs st : next cs (some (xs, st)) = cons? xs (drun2 st cs) := rfl
  have next_none : next cs none = none := rfl
  have cons?_none xs : cons? xs none = none := rfl
  cases st <;> dsimp only [drun2, step2]
  case hex1 | hex2 | uhex =>
    cases hexVal c <;> simp only [apply_ite (next cs), next_some, next_none, cons?_nil]
  case dig acc =>
    simp only [apply_ite (next cs), apply_ite (cons? [acc]), next_some, next_none, cons?_none, cons?_nil,
      cons?_cons?]
  all_goals simp only [apply_ite (next cs), next_some, next_none, cons?_nil]

/-- the decoder states in which the scanner can be at a match boundary: every state but the one
right after a backslash -/
def boundary : D2 → Bool
  | .esc => false
  | _ => true

/-- only a backslash read in a boundary state leads to `.esc` -/
theorem step2_boundary (st : D2) (c : Char) :
    ((step2 st c).all fun p => boundary p.2 || boundary st && c == '\\') = true := by
  -- every branch of `step2` names its target: `rfl` unless that is `.esc`, and then the claim is the
  -- condition of the branch
  fun_cases step2 st c <;> first | rfl | assumption

/-- wherever `r` has a value from a boundary state, `r'` has the same; only this direction holds,
since taking the backslash from an unknown escape (`\k`) makes an invalid literal valid -/
def Sim (r r' : List Char) : Prop :=
  ∀ st, boundary st = true → ∀ v, drun2 st r = some v → drun2 st r' = some v

theorem sim_cons {r r' : List Char} (h : Sim r r') (st : D2) (c : Char)
    (hc : (boundary st && c == '\\') = false) (v : List Nat) :
    drun2 st (c :: r) = some v → drun2 st (c :: r') = some v := by
  rw [drun2_cons, drun2_cons]
  have hb := step2_boundary st c
  generalize step2 st c = o at hb ⊢
  cases o with
  | none => exact id
  | some p =>
    rw [Option.all_some, hc, Bool.or_false] at hb
    exact cons?_mono (h p.2 hb)

/-- the characters that continue no escape sequence: neither a digit or hex digit (`\ddd`, `\xXX`,
`\u{X}`), nor white space or a line break (`\z`), nor a brace -/
def breaks (c : Char) : Bool :=
  !c.isDigit && (hexVal c).isNone && !isSpace52 c && !(c == '\n' || c == '\r') && !(c == '{') && !(c == '}')

/-- such a character ends whatever escape is pending, just as the end of the input does, and is
then read in state `.norm` -/
theorem drun2_break {c : Char} (hc : breaks c = true) {st : D2} (hst : boundary st = true)
    (cs : List Char) :
    drun2 st (c :: cs) = (drun2 st []).bind fun p => cons? p (drun2 .norm (c :: cs)) := by
  simp only [breaks, Bool.and_eq_true, Bool.not_eq_true', Option.isNone_iff_eq_none] at hc
  cases st with
  | esc => cases hst
  | norm | zskip | dig | hex1 | hex2 | u0 | uhex =>
    simp only [drun2, hc, Option.bind, cons?_nil, Bool.false_and, Bool.false_eq_true, if_false]

theorem breaks_bs : breaks '\\' = true := by decide +kernel

theorem drun2_norm_bs (cs : List Char) : drun2 .norm ('\\' :: cs) = drun2 .esc cs := rfl

theorem sim_of_norm {c c' : Char} (hc : breaks c = true) (hc' : breaks c' = true) {r r' : List Char}
    (h : ∀ v, drun2 .norm (c :: r) = some v → drun2 .norm (c' :: r') = some v) :
    Sim (c :: r) (c' :: r') := by
  intro st hst v
  rw [drun2_break hc hst, drun2_break hc' hst]
  cases drun2 st [] with
  | none => exact nofun
  | some p => exact cons?_mono h

theorem scan_sim52 (out : Q) (s : List Char) : Sim s (scan out s) := by
  refine scan_rel out (R := Sim) (fun _ _ _ _ => id)
    (fun h1 h2 st hst v hv => h2 st hst v (h1 st hst v hv)) ?_ ?_ ?_ ?_ s
  · exact fun c r r' hc h st hst => sim_cons h st c (by rw [hst, hc]; rfl)
  · intro c r r' h
    refine sim_of_norm breaks_bs breaks_bs fun v => ?_
    rw [drun2_norm_bs, drun2_norm_bs]
    exact sim_cons h .esc c rfl v
  · -- an escaped quote and a bare quote decode alike
    intro c r hq
    have hb : breaks c = true := by apply quote_cases hq <;> decide +kernel
    have hs : step2 .esc c = step2 .norm c := by apply quote_cases hq <;> rfl
    have h : drun2 .norm ('\\' :: c :: r) = drun2 .norm (c :: r) := by
      rw [drun2_norm_bs, drun2_cons, drun2_cons, hs]
    exact ⟨sim_of_norm breaks_bs hb fun _ hv => h ▸ hv, sim_of_norm hb breaks_bs fun _ hv => h ▸ hv⟩
  · -- an escape that `scan` takes the backslash from is none of Lua 5.2+
    intro c r _ hn st hst v
    have hs : step2 .esc c = none := by
      simp only [necessary, Bool.or_eq_false_iff] at hn
      simp only [step2, isSimpleEsc, hn, Bool.or_self, Bool.false_eq_true, if_false]
    rw [drun2_break breaks_bs hst, drun2_norm_bs, drun2_cons, hs]
    cases drun2 st [] <;> exact nofun

theorem qchar_isQuote (o : Q) : isQuote (qchar o) = true := by cases o <;> rfl

theorem ne_qchar_of_not_quote {c : Char} (h : isQuote c = false) (o : Q) : (c == qchar o) = false :=
  Bool.eq_false_iff.mpr fun hc => Bool.false_ne_true (h.symm.trans (eq_of_beq hc ▸ qchar_isQuote o))

theorem lexOK_esc (q c : Char) (r : List Char) :
    lexOK false false q ('\\' :: c :: r) = lexOK false false q r := by
  simp only [lexOK, lexRun, beq_self_eq_true, if_true, Bool.and_false, Bool.false_eq_true, if_false]

theorem lexOK_plain (q : Char) {c : Char} (hc : (c == '\\') = false) (r : List Char) :
    lexOK false false q (c :: r) = true ↔
      (c == '\n' || c == '\r') = false ∧ (c == q) = false ∧ lexOK false false q r = true := by
  simp only [lexOK, lexRun, hc, Bool.false_eq_true, if_false]
  cases (c == '\n' || c == '\r') <;> cases (c == q) <;> simp

theorem lexOK_emitQuote (out : Q) {c : Char} (hq : isQuote c = true) {r : List Char}
    (h : lexOK false false (qchar out) r = true) :
    lexOK false false (qchar out) (emitQuote out c ++ r) = true := by
  rcases emitQuote_eq out c with e | ⟨e, hne⟩ <;> rw [e]
  · exact (lexOK_esc _ c r).trans h
  · exact (lexOK_plain _ (quote_ordinary hq).bs r).mpr ⟨(quote_ordinary hq).nl, hne, h⟩

/-- strict (Lua 5.1) acceptance is preserved by the rewrite, for the *new* delimiter -/
theorem scan_lex51 (out : Q) (q : Char) (s : List Char) :
    lexOK false false q s = true → lexOK false false (qchar out) (scan out s) = true := by
  fun_induction scan out s with
  | case1 => exact fun _ => rfl
  | case2 c r hq ih => exact fun h => lexOK_emitQuote out hq (ih (lexOK_esc q c r ▸ h))
  | case3 c r _ _ ih => exact fun h => (lexOK_esc _ c _).trans (ih (lexOK_esc q c r ▸ h))
  | case4 c r hq hn ih =>
    have ho := unnec_ordinary (Bool.not_eq_true _ ▸ hn)
    have hne := ne_qchar_of_not_quote (Bool.not_eq_true _ ▸ hq) out
    exact fun h => (lexOK_plain _ ho.bs _).mpr ⟨ho.nl, hne, ih (lexOK_esc q c r ▸ h)⟩
  | case5 c r _ hq ih =>
    exact fun h => lexOK_emitQuote out hq (ih ((lexOK_plain q (quote_ordinary hq).bs r).mp h).2.2)
  | case6 c r hne hq ih =>
    rcases scan_unmatched hne with hb | ⟨rfl, rfl⟩
    · intro h
      obtain ⟨hnl, -, hr⟩ := (lexOK_plain q hb r).mp h
      exact (lexOK_plain _ hb _).mpr ⟨hnl, ne_qchar_of_not_quote (Bool.not_eq_true _ ▸ hq) out, ih hr⟩
    · exact nofun

/-- anything the strict machine accepts, full_moon accepts in every dialect mode -/
theorem lex_mono (v52 zf : Bool) (q : Char) (s : List Char) :
    ∀ e z, lexRun false false q e false s = true → lexRun v52 zf q e z s = true := by
  induction s with
  | nil => intro e z h; cases e <;> exact h
  | cons c cs ih =>
    intro e z h
    cases e with
    | true =>
      simp only [lexRun, Bool.and_false, Bool.false_eq_true, if_false] at h
      simp only [lexRun]
      split <;> exact ih _ _ h
    | false =>
      cases hc : c == '\\' with
      | true =>
        simp only [lexRun, hc, if_true] at h ⊢
        exact ih _ _ h
      | false =>
        obtain ⟨hnl, hq, hr⟩ := (lexOK_plain q hc cs).mp h
        simp only [lexRun, hc, hnl, hq, Bool.false_eq_true, if_false]
        exact ih _ _ hr

theorem scan_esc (q : Q) (c : Char) (r : List Char) :
    scan q ('\\' :: c :: r) =
      if isQuote c then emitQuote q c ++ scan q r
      else if necessary c then '\\' :: c :: scan q r else c :: scan q r := by
  rw [scan]

theorem scan_plain (q : Q) {c : Char} (hb : (c == '\\') = false) (r : List Char) :
    scan q (c :: r) = (if isQuote c then emitQuote q c else [c]) ++ scan q r := by
  rw [scan]
  · split <;> rfl
  · intro c' r' hc; rw [hc] at hb; cases hb

theorem scan_idem (q : Q) (s : List Char) : scan q (scan q s) = scan q s := by
  refine (scan_rel q (R := fun r r' => scan q r = scan q r') (fun _ => rfl) Eq.trans ?_ ?_ ?_ ?_ s).symm
  · intro c r r' hc h; rw [scan_plain q hc, scan_plain q hc, h]
  · intro c r r' h; rw [scan_esc, scan_esc, h]
  · intro c r hq
    have e : scan q ('\\' :: c :: r) = scan q (c :: r) := by
      rw [scan_esc, scan_plain q (quote_ordinary hq).bs, hq, if_pos rfl, if_pos rfl]
    exact ⟨e, e.symm⟩
  · intro c r hq hn; rw [scan_esc, scan_plain q (unnec_ordinary hn).bs, hq, hn]; rfl

/-- `scan` only adds and removes backslashes -/
theorem countC_scan {ch : Char} (hch : ch ≠ '\\') (q : Q) (s : List Char) :
    countC ch (scan q s) = countC ch s := by
  have bs r : countC ch ('\\' :: r) = countC ch r := by
    simp only [countC, beq_eq_false_iff_ne.mpr hch.symm, Bool.false_eq_true, if_false, Nat.zero_add]
  refine scan_rel q (R := fun r r' => countC ch r' = countC ch r) (fun _ => rfl)
    (fun h1 h2 => h2.trans h1) ?_ ?_ ?_ ?_ s
  · intro c r r' _ h; rw [countC, countC, h]
  · intro c r r' h; rw [bs, bs, countC, countC, h]
  · intro c r _; exact ⟨(bs _).symm, bs _⟩
  · intro c r _ _; exact (bs _).symm

/-- the rewriting leaves the number of either quote character as it was, so the same quote is
chosen again, and `scan` fixes its own output -/
theorem rewrite_idem (style : QuoteStyle) (b : List Char) :
    rewrite style (rewrite style b).2 = rewrite style b := by
  simp only [rewrite, quoteToUse, scan_idem, countC_scan (ch := '\'') (by decide),
    countC_scan (ch := '"') (by decide)]

/-- all that `rewriteNumber` can do to a token -/
theorem rewriteNumber_cases (t : List Char) :
    rewriteNumber t = t ∨ rewriteNumber t = '0' :: t ∨
    (∃ r, t = '-' :: '.' :: r ∧ rewriteNumber t = '-' :: '0' :: '.' :: r) := by
  unfold rewriteNumber
  split
  · exact .inr (.inl rfl)
  · exact .inr (.inr ⟨_, rfl, rfl⟩)
  · exact .inl rfl

end StyluaModel.StrLitLemmas
