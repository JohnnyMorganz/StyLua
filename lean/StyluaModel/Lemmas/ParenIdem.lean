/- The single-line parenthesis rule is idempotent on every tree without a `- -` pair
(helper lemmas for Props/C06.lean). -/
import StyluaModel.Lemmas.Paren
namespace StyluaModel.ParenIdem
open StyluaModel StyluaModel.ParenRule StyluaModel.ParenLemmas Expr

/-- no unary minus applied directly to a unary minus (the source spelling `- -x`) -/
def noMM : Expr → Bool
  | paren e => noMM e
  | un op e => !(op == .minus && ParenRule.isUnMinus e) && noMM e
  | bin _ l r => noMM l && noMM r
  | .assert e => noMM e
  | _ => true

theorem noMM_un {op : UnOp} {e : Expr} :
    noMM (un op e) = true ↔ Prec.minusClash op e = false ∧ noMM e = true := by
  rw [noMM, isUnMinus_eq, Bool.and_eq_true, Bool.not_eq_true']
  rfl

theorem checkExcess_guardS {op : UnOp} {r : Expr} {ctx : Ctx} : checkExcess (guardS op r) ctx = true ↔
    (op = .minus ∧ needsMinusGuard r = true) ∨ checkExcess r ctx = true := by
  unfold guardS
  split <;> simp [*, checkExcess]

theorem excess_stays (x : Expr) (h : checkExcess x .unOrBin = true) :
    checkExcess (fmtS repaired .unOrBin x) .unOrBin = true := by
  induction x with
  | atom n => exact h
  | call | varargs | ifx | assert | bin => cases h
  | paren z ih =>
    rw [fmtS_paren]
    split
    · rename_i hc
      exact ih hc.1
    · rfl
  | un op z ih =>
    rw [checkExcess_un] at h
    rw [fmtS_un, checkExcess_un]
    exact ⟨h.1, checkExcess_guardS.2 (.inr (ih h.2))⟩

/-- the `- -` guard fires on what the formatter made of a `-…` or of a parenthesis, of nothing else -/
theorem paren_of_guard {op : UnOp} {x : Expr} (hg : op = .minus ∧ needsMinusGuard (fmtS repaired .unOrBin x) = true)
    (hm : Prec.minusClash op x = false) : ∃ z, x = paren z := by
  obtain ⟨rfl, hg⟩ := hg
  cases x with
  | paren z => exact ⟨z, rfl⟩
  | un op z =>
    rw [fmtS_un] at hg
    cases op with
    | minus => cases hm
    | not | hash | tilde => cases hg
  | atom | call | varargs | ifx | assert | bin => cases hg

/-- parentheses that must stay are not made droppable by formatting their content, in whatever context -/
theorem excess_of_fmtS (e : Expr) (hn : noMM e = true) (ctx ctx' : Ctx)
    (h : checkExcess (fmtS repaired ctx' e) ctx = true) : checkExcess e ctx = true := by
  induction e generalizing ctx' with
  | atom | paren => rfl
  | call | varargs | ifx | assert | bin => exact h
  | un op x ih =>
    have ⟨hm, hn'⟩ := noMM_un.1 hn
    rw [fmtS_un, checkExcess_un, checkExcess_guardS] at h
    rw [checkExcess_un]
    refine ⟨h.1, h.2.elim (fun hg => ?_) (ih hn' .unOrBin)⟩
    obtain ⟨z, rfl⟩ := paren_of_guard hg hm
    rfl

theorem fmtS_idem (e : Expr) (hn : noMM e = true) :
    ∀ ctx, fmtS repaired ctx (fmtS repaired ctx e) = fmtS repaired ctx e := by
  induction e with
  | atom | call | varargs | ifx => exact fun _ => rfl
  | assert e ih =>
    intro ctx
    simp only [fmtS, ih hn .tassert]
  | bin op l r ihl ihr =>
    intro ctx
    simp only [noMM, Bool.and_eq_true] at hn
    simp only [fmtS, ihl hn.1, ihr hn.2]
  | paren e ih =>
    intro ctx
    rw [fmtS_paren]
    split
    · exact ih hn ctx
    · rename_i hc
      rw [fmtS_paren, if_neg fun hc2 => hc ⟨excess_of_fmtS e hn ctx .std hc2.1, hc2.2⟩, ih hn .std]
  | un op e ih =>
    intro ctx
    have ⟨hm, hn'⟩ := noMM_un.1 hn
    have ihe := ih hn' .unOrBin
    -- the guard's parenthesis is dropped by the second pass, which then puts it back
    have key : fmtS repaired .unOrBin (guardS op (fmtS repaired .unOrBin e)) = fmtS repaired .unOrBin e := by
      unfold guardS
      split
      · rename_i hg
        obtain ⟨z, hz⟩ := paren_of_guard hg hm
        rw [fmtS_paren, if_pos ⟨hz ▸ excess_stays (paren z) rfl, by decide⟩]
        exact ihe
      · exact ihe
    rw [fmtS_un, fmtS_un, key]

theorem noMM_of_faithful (e : Expr) (h : Prec.faithful e = true) : noMM e = true := by
  induction e with
  | paren e ih => exact ih h
  | un op e ih =>
    have ⟨_, hc, hf⟩ := faithful_un.1 h
    exact noMM_un.2 ⟨hc, ih hf⟩
  | bin op l r ihl ihr =>
    have ⟨_, hl, hr⟩ := faithful_bin.1 h
    rw [noMM, ihl hl, ihr hr]
    rfl
  | assert e ih => exact ih (faithful_assert.1 h).2
  | _ => rfl

end StyluaModel.ParenIdem
