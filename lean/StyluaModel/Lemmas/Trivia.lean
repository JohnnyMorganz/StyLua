/- The text of a comment (Props/C03, C04, C06, C10): `trim_end`, and the line endings inside block comments and long strings. -/
import StyluaModel.Model.Trivia
namespace StyluaModel.TriviaLemmas
open StyluaModel.Trivia StyluaModel.StrLit

theorem dropWhile_idem {α} (p : α → Bool) (l : List α) : (l.dropWhile p).dropWhile p = l.dropWhile p := by
  induction l with
  | nil => rfl
  | cons x xs ih => by_cases h : p x <;> simp only [List.dropWhile_cons, h, if_true, if_false, ih, Bool.false_eq_true]

theorem trimEnd_idem (s : List Char) : trimEnd (trimEnd s) = trimEnd s := by
  simp only [trimEnd, List.reverse_reverse, dropWhile_idem]

theorem trimEnd_last (s : List Char) (c : Char) (h : (trimEnd s).getLast? = some c) : isWs c = false := by
  rw [trimEnd, List.getLast?_reverse] at h
  have := List.head?_dropWhile_not isWs s.reverse
  rw [h] at this
  exact this

/-- every carriage return is immediately followed by a line feed (`p`: the previous character
was a carriage return) -/
def noLoneCRAux : Bool → List Char → Bool
  | p, [] => !p
  | p, c :: r => if p then c == '\n' && noLoneCRAux false r else noLoneCRAux (c == '\r') r
def noLoneCR (l : List Char) : Bool := noLoneCRAux false l

def noCR (l : List Char) : Bool := !l.contains '\r'

/-- text in which line endings are exactly CRLF -/
def wellCRLFAux : Bool → List Char → Bool
  | p, [] => !p
  | p, c :: r =>
      if p then c == '\n' && wellCRLFAux false r
      else if c == '\n' then false else wellCRLFAux (c == '\r') r
def wellCRLF (l : List Char) : Bool := wellCRLFAux false l

theorem noCR_cons {c : Char} {l : List Char} : noCR (c :: l) = true ↔ c ≠ '\r' ∧ noCR l = true := by
  simp only [noCR, List.contains_cons, Bool.not_eq_true', Bool.or_eq_false_iff, beq_eq_false_iff_ne, ne_comm (a := '\r')]

/-- texts without a lone carriage return are built from `\r\n` pairs and other characters -/
theorem noLoneCR_ind {P : List Char → Prop} (nil : P [])
    (crlf : ∀ r, noLoneCR r = true → P r → P ('\r' :: '\n' :: r))
    (other : ∀ c r, c ≠ '\r' → noLoneCR r = true → P r → P (c :: r)) :
    ∀ t, noLoneCR t = true → P t := by
  suffices h : ∀ t, (noLoneCRAux false t = true → P t) ∧ (noLoneCRAux true t = true → P ('\r' :: t)) from
    fun t => (h t).1
  intro t
  induction t with
  | nil => exact ⟨fun _ => nil, fun h => by cases h⟩
  | cons c r ih =>
    constructor
    · intro h
      by_cases hc : c = '\r'
      · subst hc; exact ih.2 h
      · have h' : noLoneCRAux false r = true := by
          simpa only [noLoneCRAux, Bool.false_eq_true, if_false, beq_false_of_ne hc] using h
        exact other c r hc h' (ih.1 h')
    · intro h
      simp only [noLoneCRAux, if_true, Bool.and_eq_true, beq_iff_eq] at h
      obtain ⟨rfl, hr⟩ := h
      exact crlf r hr (ih.1 hr)

theorem crlfToLf_cons_ne (c : Char) (r : List Char) (h : c ≠ '\r') : crlfToLf (c :: r) = c :: crlfToLf r := by
  rw [crlfToLf]
  intro rest hc; exact absurd hc h

theorem crlfToLf_cr_lf (r : List Char) : crlfToLf ('\r' :: '\n' :: r) = '\n' :: crlfToLf r := by
  rw [crlfToLf]

theorem crlfToLf_cr_other (c : Char) (r : List Char) (h : c ≠ '\n') :
    crlfToLf ('\r' :: c :: r) = '\r' :: crlfToLf (c :: r) := by
  rw [crlfToLf]
  intro rest _ heq; cases heq; exact h rfl

theorem noCR_crlfToLf (t : List Char) (h : noLoneCR t = true) : noCR (crlfToLf t) = true := by
  refine noLoneCR_ind (P := fun t => noCR (crlfToLf t) = true) rfl (fun r _ ih => ?_) (fun c r hc _ ih => ?_) t h
  · rw [crlfToLf_cr_lf]; exact noCR_cons.2 ⟨by decide, ih⟩
  · rw [crlfToLf_cons_ne c r hc]; exact noCR_cons.2 ⟨hc, ih⟩

theorem lfToEol_cons_lf (eol r : List Char) : lfToEol eol ('\n' :: r) = eol ++ lfToEol eol r := rfl

theorem lfToEol_cons_ne (eol : List Char) {c : Char} (h : c ≠ '\n') (r : List Char) :
    lfToEol eol (c :: r) = c :: lfToEol eol r := by
  rw [lfToEol, beq_false_of_ne h]; rfl

theorem lfToEol_lf (l : List Char) : lfToEol ['\n'] l = l := by
  fun_induction lfToEol ['\n'] l with
  | case1 => rfl
  | case2 c rest h ih => rw [ih, beq_iff_eq.1 h]; rfl
  | case3 c rest h ih => rw [ih]

theorem crlfToLf_noCR (l : List Char) (h : noCR l = true) : crlfToLf l = l := by
  induction l with
  | nil => rfl
  | cons c r ih => rw [crlfToLf_cons_ne c r (noCR_cons.1 h).1, ih (noCR_cons.1 h).2]

theorem crlf_roundtrip (l : List Char) (h : noCR l = true) : crlfToLf (lfToEol ['\r', '\n'] l) = l := by
  induction l with
  | nil => rfl
  | cons c r ih =>
    obtain ⟨hc, hr⟩ := noCR_cons.1 h
    by_cases hn : c = '\n'
    · subst hn; exact congrArg _ (ih hr)
    · rw [lfToEol_cons_ne _ hn, crlfToLf_cons_ne c _ hc, ih hr]

theorem wellCRLF_lfToEol (l : List Char) (h : noCR l = true) : wellCRLF (lfToEol ['\r', '\n'] l) = true := by
  unfold wellCRLF
  induction l with
  | nil => rfl
  | cons c r ih =>
    obtain ⟨hc, hr⟩ := noCR_cons.1 h
    by_cases hn : c = '\n'
    · subst hn; exact ih hr
    · rw [lfToEol_cons_ne _ hn]
      simpa only [wellCRLFAux, Bool.false_eq_true, if_false, beq_false_of_ne hn, beq_false_of_ne hc] using ih hr

end StyluaModel.TriviaLemmas
