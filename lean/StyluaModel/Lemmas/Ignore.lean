import StyluaModel.Model.Ignore
namespace StyluaModel.IgnoreLemmas
open StyluaModel.Ignore

theorem prefix_dropLast {a d : List Nat} (h : a <+: d) (hne : a ≠ d) : a <+: d.dropLast := by
  obtain ⟨t, rfl⟩ := h
  cases t with
  | nil => simp at hne
  | cons x xs =>
    rw [List.dropLast_append_of_ne_nil (List.cons_ne_nil x xs)]
    exact List.prefix_append _ _

/-- what `find_ignore_file_path` returns: a directory holding an ignore file, on the way up from `d`; the nearest one
when it walks up (the fuel given is the depth of `d`), `d` itself when it does not -/
theorem findIgnore_spec (w : World) (r : Bool) (fuel : Nat) (d x : Path) (h : findIgnore w r fuel d = some x) :
    x ∈ w.ignoreDirs ∧ x <+: d ∧ (r = false → x = d) ∧
    (d.length ≤ fuel → ∀ d' ∈ w.ignoreDirs, d' <+: d → d'.length ≤ x.length) := by
  induction fuel generalizing d with
  | zero =>
    simp only [findIgnore] at h
    split at h
    · rename_i hc
      cases h
      exact ⟨List.contains_iff_mem.1 hc, List.prefix_refl _, fun _ => rfl, fun _ _ _ hp => hp.length_le⟩
    · cases h
  | succ f ih =>
    simp only [findIgnore] at h
    split at h
    · rename_i hc
      cases h
      exact ⟨List.contains_iff_mem.1 hc, List.prefix_refl _, fun _ => rfl, fun _ _ _ hp => hp.length_le⟩
    · rename_i hc
      split at h
      · rename_i hr
        obtain ⟨h1, h2, _, h4⟩ := ih _ h
        refine ⟨h1, h2.trans (List.dropLast_prefix d), fun hf => by simp [hf] at hr, fun hl d' hd' hp => ?_⟩
        -- `d` holds no ignore file, so a holder above it is above its parent
        have hne : d' ≠ d := fun he => hc (he ▸ List.contains_iff_mem.2 hd')
        exact h4 (by rw [List.length_dropLast]; omega) d' hd' (prefix_dropLast hp hne)
      · cases h
end StyluaModel.IgnoreLemmas
