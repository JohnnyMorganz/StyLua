/- Round trip through the parser mirror: `faithful e → parse (print e) = e` (for enough fuel).
The induction on `e` (`reads_of_rt`) carries, for every `ts` that may follow `e`, what the
parser's loops do in front of `print e ++ ts` (`ReadsAt`). -/
import StyluaModel.Spec.Parser
import StyluaModel.Spec.Prec
namespace StyluaModel.ParserLemmas
open StyluaModel StyluaModel.Parser StyluaModel.Prec Expr

/-- the task yields `r` for every sufficiently large fuel -/
def Ev (t : Task) (ts : List Tok) (r : Expr × List Tok) : Prop :=
  ∃ n, ∀ f, n ≤ f → run f t ts = some r

/-- `Ev t ts r` is `Eventually fun f => run f t ts = some r`: the composition rules below combine
their premises with `eventually_and` and never mention a fuel bound -/
def Eventually (P : Nat → Prop) : Prop :=
  ∃ n, ∀ f, n ≤ f → P f

theorem eventually_and {P Q : Nat → Prop} (hp : Eventually P) (hq : Eventually Q) :
    Eventually fun f => P f ∧ Q f :=
  let ⟨n, hn⟩ := hp
  let ⟨m, hm⟩ := hq
  ⟨max n m, fun f hf => ⟨hn f (Nat.le_trans (Nat.le_max_left n m) hf),
    hm f (Nat.le_trans (Nat.le_max_right n m) hf)⟩⟩

/-- one unfolding of `run`, from what its recursive calls eventually answer -/
theorem ev_step {P : Nat → Prop} {t ts res} (hp : Eventually P)
    (h : ∀ g, P g → run (g + 1) t ts = some res) : Ev t ts res :=
  let ⟨n, hn⟩ := hp
  ⟨n + 1, fun
    | 0, hf => absurd hf (Nat.not_succ_le_zero n)
    | g + 1, hf => h g (hn g (Nat.le_of_succ_le_succ hf))⟩

theorem ev_of_one {t ts res} (h : ∀ g, run (g + 1) t ts = some res) : Ev t ts res :=
  ev_step (P := fun _ => True) ⟨0, fun _ _ => trivial⟩ fun g _ => h g

theorem prec_range (o : BinOp) : 1 ≤ o.prec ∧ o.prec ≤ 12 ∧ o.prec ≠ 11 := by
  cases o <;> decide
theorem prec_pos (o : BinOp) : 1 ≤ o.prec := (prec_range o).1
theorem rassoc_eq (o : BinOp) : o.rassoc = (o.prec == 12 || o.prec == 8) := by cases o <;> rfl
theorem rassoc_of_prec_eq {o op : BinOp} (h : o.prec = op.prec) : o.rassoc = op.rassoc := by
  rw [rassoc_eq, rassoc_eq, h]

/-- the last clause of `okAt (.binL o)` for an operand whose top operator is `op`: the operand
is not taken apart by `o`.  The inner loop of the parser that extends a right operand of `op`
stops in front of `o` under the same condition. -/
def leftOK (o op : BinOp) : Bool :=
  if o.rassoc then decide (op.prec > o.prec) else decide (op.prec ≥ o.prec)

theorem leftOK_iff {o op : BinOp} :
    leftOK o op = true ↔ o.prec ≤ op.prec ∧ (o.rassoc = true → o.prec < op.prec) := by
  unfold leftOK
  cases o.rassoc with
  | false => exact ⟨fun h => ⟨of_decide_eq_true h, nofun⟩, fun h => decide_eq_true h.1⟩
  | true =>
    exact ⟨fun h => ⟨Nat.le_of_lt (of_decide_eq_true h), fun _ => of_decide_eq_true h⟩,
      fun h => decide_eq_true (h.2 rfl)⟩

/-- only `^` has a precedence above the unary operators', and it is right associative -/
theorem prec_le_unPrec_of_leftOK {o op : BinOp} (h : leftOK o op = true) : o.prec ≤ unPrec := by
  by_cases h12 : 12 ≤ o.prec
  · have hr : o.rassoc = true := by
      rw [rassoc_eq, Nat.le_antisymm (prec_range o).2.1 h12]; rfl
    exact absurd (Nat.lt_of_lt_of_le ((leftOK_iff.1 h).2 hr) (prec_range op).2.1) (Nat.not_lt.2 h12)
  · exact Nat.le_of_lt_succ (Nat.lt_of_not_le h12)

def nextOp (P : BinOp → Bool) : List Tok → Bool
  | .b o :: _ => P o
  | _ => true

theorem nextOp_mono {P Q : BinOp → Bool} (h : ∀ o, P o = true → Q o = true) {ts}
    (hp : nextOp P ts = true) : nextOp Q ts = true := by
  unfold nextOp at hp ⊢
  split
  · exact h _ hp
  · rfl

theorem nextOp_false {P : BinOp → Bool} {ts} (h : nextOp P ts = false) :
    ∃ o ts', ts = .b o :: ts' ∧ P o = false := by
  unfold nextOp at h
  split at h
  · exact ⟨_, _, rfl, h⟩
  · cases h

/-- the head of the remaining input does not continue the loop at level `p` -/
def stopsAt (p : Nat) : List Tok → Bool :=
  nextOp fun o => decide (o.prec < p)

/-- the inner loop stops: the next token does not extend the right operand of `op` -/
def rhsStops (op : BinOp) : List Tok → Bool :=
  nextOp fun o => leftOK o op

/-- `e` may be followed by `ts`: an operator at the head of `ts` would accept `e` as its left
operand, and `ts` does not start with a type assertion -/
def followOK (e : Expr) : List Tok → Bool
  | .b o :: _ => okAt (.binL o) e
  | .as :: _ => false
  | _ => true

/-- what may follow `e` may follow `e'` (in the uses: the operand on `e`'s right edge) -/
theorem followOK_rightEdge {e e'} {P : BinOp → Bool}
    (h : ∀ o, okAt (.binL o) e = true → okAt (.binL o) e' = true ∧ P o = true) {ts}
    (hf : followOK e ts = true) : followOK e' ts = true ∧ nextOp P ts = true := by
  cases ts with
  | nil => exact ⟨rfl, rfl⟩
  | cons t ts =>
    cases t with
    | b o => exact h o hf
    | as => cases hf
    | _ => exact ⟨rfl, rfl⟩

theorem stopsAt_succ_of_rhsStops {op : BinOp} {ts} (h : rhsStops op ts = true) :
    stopsAt (op.prec + 1) ts = true :=
  nextOp_mono (fun _ ho => decide_eq_true (Nat.lt_succ_of_le (leftOK_iff.1 ho).1)) h

theorem stopsAt_of_rhsStops_rassoc {op : BinOp} {ts} (hr : op.rassoc = true)
    (h : rhsStops op ts = true) : stopsAt op.prec ts = true := by
  refine nextOp_mono (fun o ho => decide_eq_true ?_) h
  have ⟨h1, h2⟩ := leftOK_iff.1 ho
  rcases Nat.lt_or_eq_of_le h1 with hlt | heq
  · exact hlt
  · exact h2 ((rassoc_of_prec_eq heq).trans hr)

theorem suffix_plain {e ts} (h : followOK e ts = true) : suffix e ts = some (e, ts) := by
  cases ts with
  | nil => rfl
  | cons t ts =>
    cases t with
    | as => cases h
    | _ => rfl

theorem suffix_as {e ts} (h : followOK (.assert e) ts = true) :
    suffix e (.as :: ts) = some (.assert e, ts) := by
  unfold suffix
  split
  · next heq => cases heq; cases h
  · next heq => cases heq; rfl
  · next hne => exact absurd rfl (hne ts)

theorem run_paren (f : Nat) (ts : List Tok) : run (f + 1) .primary (.lp :: ts) =
    match run f (.exprAt 0) ts with
    | some (e, .rp :: ts') => suffix (.paren e) ts'
    | _ => none := rfl

theorem run_un (f : Nat) (op : UnOp) (ts : List Tok) : run (f + 1) .primary (.u op :: ts) =
    match run f (.exprAt unPrec) ts with
    | some (e, ts') => suffix (.un op e) ts'
    | none => none := rfl

theorem run_exprAt (f p : Nat) (ts : List Tok) : run (f + 1) (.exprAt p) ts =
    match run f .primary ts with
    | some (h, ts') => run f (.climb h p) ts'
    | none => none := rfl

theorem run_climb (f : Nat) (l : Expr) (p : Nat) (op : BinOp) (ts : List Tok) :
    run (f + 1) (.climb l p) (.b op :: ts) =
      if op.prec < p then some (l, .b op :: ts) else
        match run f .primary ts with
        | none => none
        | some (h, ts2) =>
          match run f (.rhs h op) ts2 with
          | none => none
          | some (r, ts3) => run f (.climb (.bin op l r) p) ts3 := rfl

theorem run_rhs (f : Nat) (r : Expr) (op o : BinOp) (ts : List Tok) :
    run (f + 1) (.rhs r op) (.b o :: ts) =
      if o.prec > op.prec then
        match run f (.climb r (op.prec + 1)) (.b o :: ts) with
        | some (r', ts') => run f (.rhs r' op) ts'
        | none => none
      else if o.rassoc && o.prec == op.prec then
        match run f (.climb r op.prec) (.b o :: ts) with
        | some (r', ts') => run f (.rhs r' op) ts'
        | none => none
      else some (r, .b o :: ts) := rfl

theorem run_climb_stop (f : Nat) (l : Expr) {p ts} (h : stopsAt p ts = true) :
    run (f + 1) (.climb l p) ts = some (l, ts) := by
  cases ts with
  | nil => rfl
  | cons t ts =>
    cases t with
    | b o => rw [run_climb, if_pos (of_decide_eq_true h)]
    | _ => rfl

theorem ev_climb_stop {l p ts} (h : stopsAt p ts = true) : Ev (.climb l p) ts (l, ts) :=
  ev_of_one fun g => run_climb_stop g l h

theorem ev_climb_stop_nil (l : Expr) (p : Nat) : Ev (.climb l p) [] (l, []) :=
  ev_climb_stop (ts := []) rfl

theorem ev_climb_step {l p} {op : BinOp} {ts ts2 ts3 hd r res} (hp : p ≤ op.prec)
    (h1 : Ev .primary ts (hd, ts2)) (h2 : Ev (.rhs hd op) ts2 (r, ts3))
    (h3 : Ev (.climb (.bin op l r) p) ts3 res) : Ev (.climb l p) (.b op :: ts) res :=
  ev_step (eventually_and h1 (eventually_and h2 h3)) fun g ⟨h1, h2, h3⟩ => by
    simp only [run_climb, if_neg (Nat.not_lt.2 hp), h1, h2, h3]

theorem ev_rhs_stop {r op ts} (h : rhsStops op ts = true) : Ev (.rhs r op) ts (r, ts) :=
  ev_of_one fun g => by
    cases ts with
    | nil => rfl
    | cons t ts =>
      cases t with
      | b o =>
        have ⟨hle, hr⟩ := leftOK_iff.1 h
        have hne : ¬ (o.rassoc && o.prec == op.prec) = true := fun hb =>
          have ⟨hb1, hb2⟩ := Bool.and_eq_true_iff.1 hb
          Nat.ne_of_lt (hr hb1) (beq_iff_eq.1 hb2)
        rw [run_rhs, if_neg (Nat.not_lt.2 hle), if_neg hne]
      | _ => rfl

theorem ev_rhs_equal {r r'} {op o : BinOp} {ts ts' res}
    (ho : o.prec = op.prec) (hr : o.rassoc = true)
    (h1 : Ev (.climb r op.prec) (.b o :: ts) (r', ts')) (h2 : Ev (.rhs r' op) ts' res) :
    Ev (.rhs r op) (.b o :: ts) res :=
  ev_step (eventually_and h1 h2) fun g ⟨h1, h2⟩ => by
    have hb : (o.rassoc && o.prec == op.prec) = true :=
      Bool.and_eq_true_iff.2 ⟨hr, beq_iff_eq.2 ho⟩
    rw [run_rhs, if_neg (Nat.not_lt.2 (Nat.le_of_eq ho)), if_pos hb, h1]; exact h2

/-- the first round of the inner loop for `op`, when climbing from `hd` at the next level yields
`e`: if that consumed nothing the loop is where it was, otherwise it took its first branch -/
theorem ev_rhs_of_climb {hd e} {op : BinOp} {ts2 ts res}
    (hc : Ev (.climb hd (op.prec + 1)) ts2 (e, ts))
    (hX : Ev (.rhs e op) ts res) : Ev (.rhs hd op) ts2 res := by
  cases hs : stopsAt (op.prec + 1) ts2 with
  | true =>
    obtain ⟨n, hn⟩ := hc
    cases (hn (n + 1) (Nat.le_succ n)).symm.trans (run_climb_stop n hd hs)
    exact hX
  | false =>
    obtain ⟨o, ts', rfl, ho⟩ := nextOp_false hs
    have ho : op.prec < o.prec := Nat.le_of_not_lt (of_decide_eq_false ho)
    exact ev_step (eventually_and hc hX) fun g ⟨h1, h2⟩ => by
      rw [run_rhs, if_pos ho, h1]; exact h2

/-- `faithful` without its lexical clause (`- -` is a comment: invisible at token level) -/
def rt : Expr → Bool
  | paren e => rt e
  | un op e => okAt (.unOperand op) e && rt e
  | bin op l r => okAt (.binL op) l && okAt (.binR op) r && rt l && rt r
  | .assert e => okAt .assertOperand e && rt e
  | _ => true

theorem rt_of_faithful (e : Expr) (h : faithful e = true) : rt e = true := by
  induction e with
  | paren e ih => exact ih h
  | un op e ih =>
    simp only [faithful, rt, Bool.and_eq_true] at h ⊢
    exact ⟨h.1.1, ih h.2⟩
  | bin op l r ihl ihr =>
    simp only [faithful, rt, Bool.and_eq_true] at h ⊢
    exact ⟨⟨h.1.1, ihl h.1.2⟩, ihr h.2⟩
  | assert e ih =>
    simp only [faithful, rt, Bool.and_eq_true] at h ⊢
    exact ⟨h.1, ih h.2⟩
  | _ => rfl

theorem okAt_binL_eq (o : BinOp) (c : Expr) : okAt (.binL o) c =
    (!rightOpen c && !(o == .lt && endsWithType c) &&
      match c with
      | bin opl _ _ => leftOK o opl
      | un _ _ => decide (o.prec ≤ unPrec)
      | _ => true) := rfl

theorem okAt_binR_bin {op o : BinOp} {l r} (h : okAt (.binR op) (bin o l r) = true) :
    op.prec < o.prec ∨ op.rassoc = true ∧ o.prec = op.prec := by
  have h : (if op.rassoc then decide (o.prec ≥ op.prec) else decide (o.prec > op.prec)) = true :=
    h
  split at h
  · next hr =>
    exact (Nat.lt_or_eq_of_le (of_decide_eq_true h)).imp_right fun heq => ⟨hr, heq.symm⟩
  · exact .inl (of_decide_eq_true h)

/-- Descent along the right edge: what follows `un u e` or `bin op l r` also follows its last
operand, so an operator that accepts the node as its left operand has to accept that operand;
the node's own `rt` clause supplies the comparison that is missing. -/
theorem okAt_binL_un {o : BinOp} {u e} (he : okAt (.unOperand u) e = true)
    (h : okAt (.binL o) (un u e) = true) :
    okAt (.binL o) e = true ∧ decide (o.prec < unPrec) = true := by
  rw [okAt_binL_eq, Bool.and_eq_true] at h
  have hle : o.prec ≤ unPrec := of_decide_eq_true h.2
  refine ⟨?_, decide_eq_true (Nat.lt_of_le_of_ne hle (prec_range o).2.2)⟩
  rw [okAt_binL_eq, Bool.and_eq_true]
  refine ⟨h.1, ?_⟩
  cases e with
  | bin op2 a b =>
    have hlt : o.prec < op2.prec := Nat.lt_of_le_of_lt hle (of_decide_eq_true he)
    exact leftOK_iff.2 ⟨Nat.le_of_lt hlt, fun _ => hlt⟩
  | un u2 y => exact h.2
  | _ => rfl

theorem okAt_binL_bin {o op l r} (hr : okAt (.binR op) r = true)
    (h : okAt (.binL o) (bin op l r) = true) :
    okAt (.binL o) r = true ∧ leftOK o op = true := by
  rw [okAt_binL_eq, Bool.and_eq_true] at h
  refine ⟨?_, h.2⟩
  rw [okAt_binL_eq, Bool.and_eq_true]
  refine ⟨h.1, ?_⟩
  cases r with
  | bin opr c d =>
    have hle : op.prec ≤ opr.prec :=
      (okAt_binR_bin hr).elim Nat.le_of_lt fun h => Nat.le_of_eq h.2.symm
    have ⟨h1, h2⟩ := leftOK_iff.1 h.2
    exact leftOK_iff.2 ⟨Nat.le_trans h1 hle, fun ho => Nat.lt_of_lt_of_le (h2 ho) hle⟩
  | un u y => exact decide_eq_true (prec_le_unPrec_of_leftOK h.2)
  | _ => rfl

/-- the loop at level `p` builds the whole of `e` -/
def topOK (e : Expr) (p : Nat) : Prop :=
  ∀ op l r, e = bin op l r → p ≤ op.prec

theorem topOK_zero (e : Expr) : topOK e 0 :=
  fun _ _ _ _ => Nat.zero_le _

theorem topOK_of_okAt_un {u e} (h : okAt (.unOperand u) e = true) : topOK e unPrec := by
  rintro _ _ _ rfl
  exact Nat.le_of_lt (of_decide_eq_true h)

/-- the left operand's top operator binds at least as tightly as `op`, and more tightly if `op`
is right associative -/
theorem topOK_of_okAt_binL {op : BinOp} {l p} (h : okAt (.binL op) l = true)
    (hp : p ≤ op.prec ∨ op.rassoc = true ∧ p = op.prec + 1) : topOK l p := by
  rintro _ _ _ rfl
  rw [okAt_binL_eq, Bool.and_eq_true] at h
  have ⟨h1, h2⟩ := leftOK_iff.1 h.2
  rcases hp with hp | ⟨hr, rfl⟩
  · exact Nat.le_trans hp h1
  · exact h2 hr

theorem print_paren_append (e : Expr) (ts : List Tok) :
    print (paren e) ++ ts = .lp :: (print e ++ .rp :: ts) :=
  congrArg (Tok.lp :: ·) (List.append_assoc ..)

theorem print_un_append (u : UnOp) (e : Expr) (ts : List Tok) :
    print (un u e) ++ ts = .u u :: (print e ++ ts) :=
  rfl

theorem print_assert_append (e : Expr) (ts : List Tok) :
    print (.assert e) ++ ts = print e ++ .as :: ts :=
  List.append_assoc ..

theorem print_bin_append (op : BinOp) (l r : Expr) (ts : List Tok) :
    print (bin op l r) ++ ts = print l ++ .b op :: (print r ++ ts) :=
  List.append_assoc ..

/-- in front of `ts`, the primary expression at the head of `print e` is some `h`; looping on
from `h` at any level that builds `e` is the same as looping on from `e`; and the inner loop for
an operator that accepts `e` as its right operand, started from `h`, builds `e` and stops -/
def ReadsAt (e : Expr) (ts : List Tok) : Prop :=
  ∃ h ts2, Ev .primary (print e ++ ts) (h, ts2) ∧
    (∀ p res, topOK e p → Ev (.climb e p) ts res → Ev (.climb h p) ts2 res) ∧
    ∀ op, okAt (.binR op) e = true → rhsStops op ts = true → Ev (.rhs h op) ts2 (e, ts)

def Reads (e : Expr) : Prop :=
  ∀ ts, followOK e ts = true → ReadsAt e ts

/-- `e` is read by parse_primary_expression, whose `::` check then sees what follows `e` -/
def Prim (e : Expr) : Prop :=
  ∀ ts r, suffix e ts = some r → Ev .primary (print e ++ ts) r

theorem readsAt_self {e ts} (h : Ev .primary (print e ++ ts) (e, ts)) : ReadsAt e ts :=
  ⟨e, ts, h, fun _ _ _ hc => hc, fun _ _ hstop => ev_rhs_stop hstop⟩

theorem reads_of_prim {e} (hp : Prim e) :
    Reads e ∧ (okAt .assertOperand e = true → Prim e) :=
  ⟨fun ts hf => readsAt_self (hp ts _ (suffix_plain hf)), fun _ => hp⟩

theorem exprAt_of_reads {e} (hs : Reads e) {ts p}
    (hf : followOK e ts = true) (ht : topOK e p) (hstop : stopsAt p ts = true) :
    Ev (.exprAt p) (print e ++ ts) (e, ts) :=
  have ⟨_, _, hp, himp, _⟩ := hs ts hf
  ev_step (eventually_and hp (himp p _ ht (ev_climb_stop hstop))) fun g ⟨h1, h2⟩ => by
    rw [run_exprAt, h1]; exact h2

theorem reads_ifx (n : Nat) : Reads (ifx n) := fun ts hf => readsAt_self <| ev_of_one fun g => by
  cases ts with
  | nil => rfl
  | cons t ts =>
    cases t with
    | b o => cases hf
    | as => cases hf
    | _ => rfl

theorem prim_paren {e} (hs : Reads e) : Prim (paren e) := fun ts r h => by
  have hin := exprAt_of_reads hs (ts := .rp :: ts) rfl (topOK_zero e) rfl
  rw [print_paren_append]
  exact ev_step hin fun g h1 => by rw [run_paren, h1]; exact h

theorem reads_un {u e} (hok : okAt (.unOperand u) e = true) (hs : Reads e) :
    Reads (un u e) := fun ts hf =>
  have ⟨hfe, hstop⟩ := followOK_rightEdge (fun _ => okAt_binL_un hok) hf
  have hin := exprAt_of_reads hs hfe (topOK_of_okAt_un hok) hstop
  readsAt_self <| ev_step hin fun g h1 => by
    rw [print_un_append, run_un, h1]; exact suffix_plain hf

theorem reads_assert {e} (hp : Prim e) : Reads (.assert e) := fun ts hf =>
  readsAt_self <| by
    rw [print_assert_append]
    exact hp (.as :: ts) _ (suffix_as hf)

theorem reads_bin {op l r} (hokl : okAt (.binL op) l = true)
    (hokr : okAt (.binR op) r = true) (hsl : Reads l) (hsr : Reads r) : Reads (bin op l r) := by
  intro ts hf
  obtain ⟨hfr, hst⟩ := followOK_rightEdge (fun _ => okAt_binL_bin hokr) hf
  obtain ⟨h', ts3, hP', -, hR'⟩ := hsr ts hfr
  obtain ⟨h, ts2, hP, himp, -⟩ := hsl (.b op :: (print r ++ ts)) hokl
  -- one round of the loop, started from `l` in front of `op`, builds `bin op l r`
  have hstep : ∀ p res, p ≤ op.prec → Ev (.climb (bin op l r) p) ts res →
      Ev (.climb l p) (.b op :: (print r ++ ts)) res :=
    fun p res hp hc => ev_climb_step hp hP' (hR' op hokr hst) hc
  refine ⟨h, ts2, ?_, fun p res htop hc => ?_, fun op0 hok0 hstop => ?_⟩
  · rw [print_bin_append]
    exact hP
  · have hp : p ≤ op.prec := htop op l r rfl
    exact himp p res (topOK_of_okAt_binL hokl (.inl hp)) (hstep p res hp hc)
  · have hstop' : Ev (.rhs (bin op l r) op0) ts _ := ev_rhs_stop hstop
    rcases okAt_binR_bin hok0 with hlt | ⟨hr0, heq⟩
    · -- `op` binds tighter than `op0`: level `op0.prec + 1` builds the whole of `bin op l r`
      exact ev_rhs_of_climb (himp _ _ (topOK_of_okAt_binL hokl (.inl hlt))
        (hstep _ _ hlt (ev_climb_stop (stopsAt_succ_of_rhsStops hstop)))) hstop'
    · -- same precedence, right associative: level `op0.prec + 1` yields `l` alone, then the
      -- loop's second branch builds `bin op l r` at level `op0.prec`
      have hr : op.rassoc = true := (rassoc_of_prec_eq heq).trans hr0
      have hstop1 : stopsAt (op0.prec + 1) (.b op :: (print r ++ ts)) = true :=
        decide_eq_true (Nat.lt_succ_of_le (Nat.le_of_eq heq))
      exact ev_rhs_of_climb
        (himp _ _ (topOK_of_okAt_binL hokl (.inr ⟨hr, heq ▸ rfl⟩)) (ev_climb_stop hstop1))
        (ev_rhs_equal heq hr (hstep _ _ (Nat.le_of_eq heq.symm)
          (ev_climb_stop (stopsAt_of_rhsStops_rassoc hr0 hstop))) hstop')

theorem reads_of_rt (e : Expr) (hrt : rt e = true) :
    Reads e ∧ (okAt .assertOperand e = true → Prim e) := by
  induction e with
  | atom n | call n | varargs => exact reads_of_prim fun _ _ h => ev_of_one fun _ => h
  | ifx n => exact ⟨reads_ifx n, Bool.noConfusion⟩
  | paren e ih => exact reads_of_prim (prim_paren (ih hrt).1)
  | un u e ih =>
    simp only [rt, Bool.and_eq_true] at hrt
    exact ⟨reads_un hrt.1 (ih hrt.2).1, Bool.noConfusion⟩
  | assert e ih =>
    simp only [rt, Bool.and_eq_true] at hrt
    exact ⟨reads_assert ((ih hrt.2).2 hrt.1), Bool.noConfusion⟩
  | bin op l r ihl ihr =>
    simp only [rt, Bool.and_eq_true] at hrt
    exact ⟨reads_bin hrt.1.1.1 hrt.1.1.2 (ihl hrt.1.2).1 (ihr hrt.2).1, Bool.noConfusion⟩

/-- **round trip**: a tree that satisfies `rt`, so every faithful tree, is exactly what the parser
builds from its printed form -/
theorem roundtrip (e : Expr) (h : rt e = true) : Ev (.exprAt 0) (print e) (e, []) := by
  have := exprAt_of_reads (reads_of_rt e h).1 (ts := []) (p := 0) rfl (topOK_zero e) rfl
  rwa [List.append_nil] at this

theorem parse_print (e : Expr) (h : faithful e = true) : ∃ n, ∀ f, n ≤ f → parse f (print e) = some e := by
  obtain ⟨n, hn⟩ := roundtrip e (rt_of_faithful e h)
  exact ⟨n, fun f hf => by unfold parse; rw [hn f hf]⟩

end StyluaModel.ParserLemmas
