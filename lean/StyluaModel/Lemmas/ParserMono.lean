/- More fuel never changes an answer of the parser mirror. -/
import StyluaModel.Lemmas.Parser
namespace StyluaModel.ParserLemmas
open StyluaModel StyluaModel.Parser Expr

theorem run_mono {f t ts r} (h : run f t ts = some r) : run (f + 1) t ts = some r := by
  induction f generalizing t ts r with
  | zero => cases h
  | succ f ih =>
    -- where `run` calls itself, the same equation unfolds it at `f + 1` and at `f + 2`, and the
    -- calls are replaced from the outside in; elsewhere both sides are the same term
    cases t with
    | primary =>
      cases ts with
      | nil => exact h
      | cons tk ts =>
        cases tk with
        | lp =>
          rw [run_paren] at h ⊢
          split at h
          · next hsub => rw [ih hsub]; exact h
          · cases h
        | u op =>
          rw [run_un] at h ⊢
          split at h
          · next hsub => rw [ih hsub]; exact h
          · cases h
        | _ => exact h
    | exprAt p =>
      rw [run_exprAt] at h ⊢
      split at h
      · next hsub => rw [ih hsub]; exact ih h
      · cases h
    | climb l p =>
      cases hs : stopsAt p ts with
      | true => rw [run_climb_stop _ l hs] at h ⊢; exact h
      | false =>
        obtain ⟨op, ts, rfl, hp⟩ := nextOp_false hs
        rw [run_climb, if_neg (of_decide_eq_false hp)] at h ⊢
        split at h
        · cases h
        · next h1 =>
          rw [ih h1]
          split at h
          · cases h
          · next h2 => rw [ih h2]; exact ih h
    | rhs r0 op =>
      cases ts with
      | nil => exact h
      | cons tk ts =>
        cases tk with
        | b o =>
          rw [run_rhs] at h ⊢
          split at h
          · next hp =>
            rw [if_pos hp]
            split at h
            · next h1 => rw [ih h1]; exact ih h
            · cases h
          · next hp =>
            rw [if_neg hp]
            split at h
            · next hq =>
              rw [if_pos hq]
              split at h
              · next h1 => rw [ih h1]; exact ih h
              · cases h
            · next hq => rw [if_neg hq]; exact h
        | _ => exact h

theorem run_mono_le {f g : Nat} (hfg : f ≤ g) {t ts r} (h : run f t ts = some r) :
    run g t ts = some r := by
  induction hfg with
  | refl => exact h
  | step _ ih => exact run_mono ih

theorem parse_mono_le {f g : Nat} (hfg : f ≤ g) {ts e} (h : parse f ts = some e) :
    parse g ts = some e := by
  unfold parse at h ⊢
  split at h
  · next heq => rw [run_mono_le hfg heq]; exact h
  · cases h

/-- whenever the executable parser answers on the printed form of a faithful tree - with any
fuel at all - the answer is that tree -/
theorem parse_print_any_fuel (e e' : Expr) (hf : Prec.faithful e = true) (f : Nat)
    (h : parse f (print e) = some e') : e' = e := by
  obtain ⟨n, hn⟩ := parse_print e hf
  have h' := parse_mono_le (Nat.le_max_right n f) h
  rw [hn _ (Nat.le_max_left n f)] at h'
  exact (Option.some.inj h').symm

end StyluaModel.ParserLemmas
