/- The white space that format_end_token (Model/EndToken.lean) and format_eof (Model/Eof.lean) leave in front of a closing
token and of the end of the file (Props/C10.lean), and the idempotence of the former (Props/C06.lean). -/
import StyluaModel.Model.EndToken
import StyluaModel.Model.Eof

namespace StyluaModel.EndTokenLemmas
open StyluaModel.Trivia StyluaModel.EndToken

/-- a line ending is only dropped in front of something that is not a comment, so the scan never brings a
comment to the front -/
theorem head_scan (stop : Bool) (r : List Out) : headIsComment (scan stop r) = headIsComment r := by
  fun_induction scan stop r with
  | case2 stop rest h ih =>  -- the line ending that is dropped
    rw [ih]
    show headIsComment rest = false
    simpa using (Bool.and_eq_true_iff.1 h).2
  | _ => rfl

/-- nothing but indentation follows the last comment, and without a comment nothing but indentation is left:
blank lines in front of the closing token are removed -/
def tailClean : List Out → Bool
  | [] => true
  | .newline :: rest => headIsComment rest
  | .indent :: rest => tailClean rest
  | .space :: rest => tailClean rest
  | .comment _ _ :: _ => true

theorem scan_clean (l : List Out) : tailClean (scan false l) = true := by
  induction l with
  | nil => rfl
  | cons x r ih =>
    cases x with
    | newline =>
      cases hr : headIsComment r
      · simpa only [scan, hr, Bool.not_false, Bool.and_self, if_true] using ih
      · simp only [scan, hr, Bool.not_true, Bool.and_false, Bool.false_eq_true, if_false, tailClean, head_scan]
    | comment k t => rfl
    | _ => exact ih

theorem scan_idem (l : List Out) (stop : Bool) : scan stop (scan stop l) = scan stop l := by
  fun_induction scan stop l <;> simp only [scan, head_scan, Bool.false_eq_true, if_false, *]

end StyluaModel.EndTokenLemmas

namespace StyluaModel.EofLemmas
open StyluaModel.Trivia StyluaModel.Eof

theorem popWs_last (l : List Out) (h : ¬ l.all isWsOut = true) : ∃ pre k t, popWs l = pre ++ [.comment k t] := by
  unfold popWs
  cases hd : l.reverse.dropWhile isWsOut with
  | nil =>
    have := List.any_dropWhile (p := isWsOut) (l := l.reverse)
    rw [hd] at this
    exact absurd (by simpa using this) h
  | cons x xs =>
    have hx := List.head?_dropWhile_not isWsOut l.reverse
    rw [hd] at hx
    cases x with
    | comment k t => exact ⟨xs.reverse, k, t, List.reverse_cons ..⟩
    | _ => cases hx

end StyluaModel.EofLemmas
