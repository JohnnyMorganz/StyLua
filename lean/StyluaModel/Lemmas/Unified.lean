/- Helper lemmas for Props/C18.lean (unified diff: similar's grouping + hunk construction vs the strict applier).
Everything `group_diff_ops` does to the script - trimming the first and the last Equal, splitting a long Equal
between two groups - cuts an Equal operation in two (`script_cut`); the lines that end up in no group are kept
in the script as an Equal of their own, so that `Script` remains the only invariant. -/
import StyluaModel.Model.Unified
import StyluaModel.Lemmas.Diff
namespace StyluaModel.UnifiedLemmas
open StyluaModel.Diff StyluaModel.Unified

def spanO (xs : List IOp) : Nat := (xs.map fun x => oldLen x.op).sum
def spanN (xs : List IOp) : Nat := (xs.map fun x => newLen x.op).sum

@[simp] theorem spanO_nil : spanO [] = 0 := rfl
@[simp] theorem spanN_nil : spanN [] = 0 := rfl
theorem spanO_cons (x : IOp) (xs) : spanO (x :: xs) = oldLen x.op + spanO xs := rfl
theorem spanN_cons (x : IOp) (xs) : spanN (x :: xs) = newLen x.op + spanN xs := rfl

/-- the operation sits inside both files and an Equal really covers equal lines -/
def OpOK (old new : List Nat) (x : IOp) : Prop :=
  x.oi + oldLen x.op ≤ old.length ∧ x.ni + newLen x.op ≤ new.length ∧
  (∀ n, x.op = .equal n → (old.drop x.oi).take n = (new.drop x.ni).take n)

/-- a run of operations whose index fields are the running positions, starting at (oi, ni) -/
def Run (old new : List Nat) : (oi ni : Nat) → List IOp → Prop
  | _, _, [] => True
  | oi, ni, x :: rest => x.oi = oi ∧ x.ni = ni ∧ OpOK old new x ∧ Run old new (oi + oldLen x.op) (ni + newLen x.op) rest

/-- a run behind which the two files agree: a script that turns `old.drop oi` into `new.drop ni` -/
def Script (old new : List Nat) : (oi ni : Nat) → List IOp → Prop
  | oi, ni, [] => old.drop oi = new.drop ni
  | oi, ni, x :: rest =>
      x.oi = oi ∧ x.ni = ni ∧ OpOK old new x ∧ Script old new (oi + oldLen x.op) (ni + newLen x.op) rest

theorem script_append (old new : List Nat) (a b : List IOp) : ∀ oi ni,
    Script old new oi ni (a ++ b) ↔ Run old new oi ni a ∧ Script old new (oi + spanO a) (ni + spanN a) b := by
  induction a with
  | nil => intro oi ni; exact ⟨fun h => ⟨trivial, h⟩, fun h => h.2⟩
  | cons x a ih =>
    intro oi ni
    show (_ ∧ _ ∧ _ ∧ Script old new _ _ (a ++ b)) ↔ (_ ∧ _ ∧ _ ∧ Run old new _ _ a) ∧ _
    simp only [ih, spanO_cons, spanN_cons, Nat.add_assoc, and_assoc]

theorem seg_split (l : List Nat) (a n : Nat) : (l.drop a).take n ++ l.drop (a + n) = l.drop a := by
  rw [← List.drop_drop]; exact List.take_append_drop n _

theorem take_seg (l : List Nat) (a n k : Nat) :
    (l.drop a).take n ++ (l.drop (a + n)).take k = (l.drop a).take (n + k) := by
  rw [List.take_add, List.drop_drop]

theorem len_seg (l : List Nat) (a n : Nat) (h : a + n ≤ l.length) : ((l.drop a).take n).length = n := by
  rw [List.length_take, List.length_drop]
  exact Nat.min_eq_left (Nat.le_sub_of_add_le' h)

/-- an Equal operation cut in two: a segment is the concatenation of two, and equal concatenations whose first
parts have the same length agree part by part -/
theorem opOK_cut {old new : List Nat} {m₁ m₂ a b : Nat} (h : OpOK old new ⟨.equal (m₁ + m₂), a, b⟩) :
    OpOK old new ⟨.equal m₁, a, b⟩ ∧ OpOK old new ⟨.equal m₂, a + m₁, b + m₁⟩ := by
  have ho : a + m₁ + m₂ ≤ old.length := Nat.add_assoc .. ▸ h.1
  have hn : b + m₁ + m₂ ≤ new.length := Nat.add_assoc .. ▸ h.2.1
  have ho₁ := Nat.le_of_add_right_le ho
  have hn₁ := Nat.le_of_add_right_le hn
  have heq := h.2.2 _ rfl
  rw [← take_seg, ← take_seg] at heq
  have ⟨e₁, e₂⟩ := List.append_inj heq (by rw [len_seg _ _ _ ho₁, len_seg _ _ _ hn₁])
  exact ⟨⟨ho₁, hn₁, fun _ e => by cases e; exact e₁⟩, ⟨ho, hn, fun _ e => by cases e; exact e₂⟩⟩

/-- an Equal anywhere in a script cut in two. The index fields `a`, `b` stay as they are written (`Script` says
what they are equal to): the pieces then are, term for term, the operations `trimHead`, `trimLast` and `groupLoop` build -/
theorem script_cut {old new : List Nat} {oi ni len a b : Nat} {pre rest : List IOp}
    (h : Script old new oi ni (pre ++ ⟨.equal len, a, b⟩ :: rest)) (m₁ m₂ : Nat) (hm : m₁ + m₂ = len) :
    Script old new oi ni (pre ++ ⟨.equal m₁, a, b⟩ :: ⟨.equal m₂, a + m₁, b + m₁⟩ :: rest) := by
  obtain ⟨hp, rfl, rfl, hok, hr⟩ := (script_append ..).mp h
  subst hm
  have ⟨ok₁, ok₂⟩ := opOK_cut hok
  refine (script_append ..).mpr ⟨hp, rfl, rfl, ok₁, rfl, rfl, ok₂, ?_⟩
  simpa only [oldLen, newLen, Nat.add_assoc] using hr

theorem script_skip {old new : List Nat} {oi ni k a b : Nat}
    (h : Script old new oi ni [⟨.equal k, a, b⟩]) : old.drop oi = new.drop ni := by
  obtain ⟨rfl, rfl, ⟨_, _, heq⟩, ht⟩ := h
  rw [← seg_split old a k, ← seg_split new b k, heq k rfl]
  exact congrArg _ ht

theorem applyLines_eq (l : List Nat) (n : Nat) (rest : List (Tag × Nat)) :
    applyLines l ((l.take n).map (Tag.eq, ·) ++ rest) =
      (applyLines (l.drop n) rest).map fun p => (l.take n ++ p.1, p.2) := by
  induction l generalizing n with
  | nil => simp
  | cons x l ih =>
    cases n with
    | zero => simp
    | succ n =>
      show (if x = x then (applyLines l ((l.take n).map (Tag.eq, ·) ++ rest)).map _ else none) = _
      rw [if_pos rfl, ih, Option.map_map]
      rfl

theorem applyLines_del (l : List Nat) (n : Nat) (rest : List (Tag × Nat)) :
    applyLines l ((l.take n).map (Tag.del, ·) ++ rest) = applyLines (l.drop n) rest := by
  induction l generalizing n with
  | nil => simp
  | cons x l ih =>
    cases n with
    | zero => rfl
    | succ n =>
      show (if x = x then applyLines l ((l.take n).map (Tag.del, ·) ++ rest) else none) = _
      rw [if_pos rfl]
      exact ih n

theorem applyLines_ins (a l : List Nat) (rest : List (Tag × Nat)) :
    applyLines l (a.map (Tag.ins, ·) ++ rest) = (applyLines l rest).map fun p => (a ++ p.1, p.2) := by
  induction a with
  | nil => simp
  | cons x a ih =>
    have : applyLines l ((x :: a).map (Tag.ins, ·) ++ rest) =
        (applyLines l (a.map (Tag.ins, ·) ++ rest)).map fun p => (x :: p.1, p.2) := by cases l <;> rfl
    rw [this, ih, Option.map_map]
    rfl

theorem applyLines_changes {old new : List Nat} {x : IOp} (h : OpOK old new x) (rest : List (Tag × Nat)) :
    applyLines (old.drop x.oi) (changes old new x ++ rest) =
      (applyLines (old.drop (x.oi + oldLen x.op)) rest).map fun p => ((new.drop x.ni).take (newLen x.op) ++ p.1, p.2) := by
  obtain ⟨op, oi, ni⟩ := x
  cases op with
  | equal n =>
    simp only [changes, oldLen, newLen]
    rw [applyLines_eq, List.drop_drop, h.2.2 n rfl]
  | delete n =>
    simp only [changes, oldLen, newLen]
    rw [applyLines_del, List.drop_drop]
    simp
  | insert n =>
    simp only [changes, oldLen, newLen]
    rw [applyLines_ins]
    rfl
  | replace n m =>
    simp only [changes, oldLen, newLen, List.append_assoc]
    rw [applyLines_del, applyLines_ins, List.drop_drop]

theorem body (old new : List Nat) (g : List IOp) : ∀ oi ni, Run old new oi ni g →
    applyLines (old.drop oi) (g.flatMap (changes old new)) =
      some ((new.drop ni).take (spanN g), old.drop (oi + spanO g)) := by
  induction g with
  | nil => intro oi ni _; rfl
  | cons x g ih =>
    intro oi ni h
    obtain ⟨rfl, rfl, hok, hr⟩ := h
    rw [List.flatMap_cons, applyLines_changes hok, ih _ _ hr, Option.map_some, spanO_cons, spanN_cons, take_seg,
      Nat.add_assoc]

theorem countOld_append (a b : List (Tag × Nat)) : countOld (a ++ b) = countOld a + countOld b := by
  simp [countOld]
theorem countNew_append (a b : List (Tag × Nat)) : countNew (a ++ b) = countNew a + countNew b := by
  simp [countNew]

theorem countOld_map (t : Tag) (l : List Nat) : countOld (l.map (t, ·)) = if t = .ins then 0 else l.length := by
  cases t <;> simp [countOld, List.filter_map, Function.comp_def]
theorem countNew_map (t : Tag) (l : List Nat) : countNew (l.map (t, ·)) = if t = .del then 0 else l.length := by
  cases t <;> simp [countNew, List.filter_map, Function.comp_def]

theorem count_changes {old new : List Nat} {x : IOp} (h : OpOK old new x) :
    countOld (changes old new x) = oldLen x.op ∧ countNew (changes old new x) = newLen x.op := by
  obtain ⟨op, oi, ni⟩ := x
  have ho := len_seg old oi _ h.1
  have hn := len_seg new ni _ h.2.1
  cases op <;> simp only [oldLen, newLen] at ho hn <;>
    simp only [changes, oldLen, newLen, countOld_append, countNew_append, countOld_map, countNew_map, reduceCtorEq,
      if_false, if_true, ho, hn, Nat.add_zero, Nat.zero_add, and_self]

theorem counts (old new : List Nat) (g : List IOp) : ∀ oi ni, Run old new oi ni g →
    countOld (g.flatMap (changes old new)) = spanO g ∧ countNew (g.flatMap (changes old new)) = spanN g := by
  induction g with
  | nil => intro _ _ _; exact ⟨rfl, rfl⟩
  | cons x g ih =>
    intro oi ni h
    have hx := count_changes h.2.2.1
    have hg := ih _ _ h.2.2.2
    simp only [List.flatMap_cons, countOld_append, countNew_append, spanO_cons, spanN_cons, hx, hg, and_self]

theorem run_last (old new : List Nat) (g : List IOp) : ∀ oi ni d, Run old new oi ni g → g ≠ [] →
    (lastD g d).oi + oldLen (lastD g d).op = oi + spanO g ∧ (lastD g d).ni + newLen (lastD g d).op = ni + spanN g := by
  induction g with
  | nil => intro _ _ _ _ h; exact absurd rfl h
  | cons x g ih =>
    intro oi ni d h _
    obtain ⟨rfl, rfl, _, hr⟩ := h
    cases g with
    | nil => exact ⟨rfl, rfl⟩
    | cons y g =>
      have := ih _ _ d hr (List.cons_ne_nil y g)
      simp only [lastD, List.getLast?_cons_cons, spanO_cons, spanN_cons, Nat.add_assoc] at this ⊢
      exact this

/-- the hunk of a group `g` that starts `k` common lines behind the applier's cursor `(c, cn)`: the strict applier accepts
it, copies the common lines and emits the new lines of `g`; `ih` is what is known of the hunks after it -/
theorem hunk_step {old new : List Nat} {g rest : List IOp} {c cn k a b : Nat} {hs : List Hunk}
    (h : Script old new c cn (⟨.equal k, a, b⟩ :: (g ++ rest))) (hg : g ≠ [])
    (ih : ∀ c' cn', Script old new c' cn' rest → applyU c' cn' (old.drop c') hs = some (new.drop cn')) :
    applyU c cn (old.drop c) (mkHunk old new g :: hs) = some (new.drop cn) := by
  obtain ⟨rfl, rfl, ⟨hk, _, heq⟩, ht⟩ := h
  have hk : a + k ≤ old.length := hk
  have heq : (old.drop a).take k = (new.drop b).take k := heq k rfl
  obtain ⟨hr, ht⟩ : Run old new (a + k) (b + k) g ∧ _ := (script_append ..).mp ht
  cases g with
  | nil => exact absurd rfl hg
  | cons x g =>
    have hl := run_last old new _ _ _ x hr hg
    have hcnt := counts old new _ _ _ hr
    have hb := body old new _ _ _ hr
    simp only [applyU, mkHunk, List.head?_cons, Option.getD_some, hr.1, hr.2.1, hl.1, hl.2, hcnt.1, hcnt.2]
    rw [if_pos, Nat.add_sub_cancel_left, List.drop_drop, hb]
    · simp only [ih _ _ ht, heq, Option.map_some, List.append_assoc, seg_split]
    · -- the seven checks of `applyU`, in its order; only the second (the common lines are there) needs `hk`
      refine ⟨Nat.le_add_right .., ?_, by rw [Nat.add_sub_cancel_left], Nat.add_sub_cancel_left ..,
        Nat.add_sub_cancel_left .., Nat.le_add_right .., Nat.le_add_right ..⟩
      rw [Nat.add_sub_cancel_left, List.length_drop]
      exact Nat.le_sub_of_add_le' hk

/-- the loop body: a long Equal closes the pending group with its first `n` lines and opens the next with its
last `n`; every other operation joins the pending group -/
theorem groupLoop_cons (n : Nat) (pending : List IOp) (x : IOp) (rest : List IOp) :
    (∃ len oi ni, x = ⟨.equal len, oi, ni⟩ ∧ n * 2 < len ∧
        groupLoop n pending (x :: rest) = (pending ++ [⟨.equal n, oi, ni⟩]) ::
          groupLoop n [⟨.equal (len - (len - n)), oi + (len - n), ni + (len - n)⟩] rest) ∨
      groupLoop n pending (x :: rest) = groupLoop n (pending ++ [x]) rest := by
  obtain ⟨op, oi, ni⟩ := x
  cases op with
  | equal len =>
    by_cases h : len > n * 2
    · exact .inl ⟨len, oi, ni, rfl, h, if_pos h⟩
    · exact .inr (if_neg h)
  | _ => exact .inr rfl

theorem groupLoop_nil (n : Nat) (pending : List IOp) :
    groupLoop n pending [] = match pending with
      | [] => []
      | [⟨.equal _, _, _⟩] => []
      | _ => [pending] := rfl

theorem groupLoop_ne (n : Nat) (rest : List IOp) : ∀ pending, ∀ g ∈ groupLoop n pending rest, g ≠ [] := by
  induction rest with
  | nil =>
    intro pending g hg
    rw [groupLoop_nil] at hg
    split at hg
    · cases hg
    · cases hg
    · rw [List.mem_singleton.mp hg]; assumption
  | cons x rest ih =>
    intro pending g hg
    rcases groupLoop_cons n pending x rest with ⟨len, oi, ni, _, _, e⟩ | e <;> rw [e] at hg
    · rcases List.mem_cons.mp hg with rfl | hg
      · exact List.append_ne_nil_of_right_ne_nil _ (List.cons_ne_nil _ _)
      · exact ih _ g hg
    · exact ih _ g hg

/-- no group is empty, so `iter_hunks` drops none -/
theorem hunks_cons (n : Nat) (x : IOp) (xs : List IOp) (old new : List Nat) :
    hunks n (x :: xs) old new = (groupLoop n [] (trimLast n (trimHead n (x :: xs)))).map (mkHunk old new) := by
  unfold hunks groupOps
  simp only [List.isEmpty_cons, Bool.false_eq_true, if_false]
  rw [List.filter_eq_self.mpr]
  intro g hg
  have := groupLoop_ne n _ [] g hg
  cases g with
  | nil => exact absurd rfl this
  | cons _ _ => rfl

theorem trimLast_cases (n : Nat) (xs : List IOp) : trimLast n xs = xs ∨
    ∃ pre len oi ni, xs = pre ++ [⟨.equal len, oi, ni⟩] ∧ trimLast n xs = pre ++ [⟨.equal (len - (len - n)), oi, ni⟩] := by
  fun_induction trimLast n xs with
  | case1 => exact .inl rfl
  | case2 len oi ni => exact .inr ⟨[], len, oi, ni, rfl, rfl⟩
  | case3 x y rest ih =>
    rcases ih with e | ⟨pre, len, oi, ni, e₁, e₂⟩
    · exact .inl (by rw [e])
    · exact .inr ⟨x :: pre, len, oi, ni, by rw [e₁]; rfl, by rw [e₂]; rfl⟩
  | case4 x _ => exact .inl rfl

/-- the lines `trimHead` drops are common lines in front of the script -/
theorem trimHead_script {old new : List Nat} {oi ni : Nat} {x : IOp} {xs : List IOp} (n : Nat)
    (h : Script old new oi ni (x :: xs)) : ∃ k a b, Script old new oi ni (⟨.equal k, a, b⟩ :: trimHead n (x :: xs)) := by
  unfold trimHead
  split
  · rename_i len a b rest e
    rw [e] at h
    exact ⟨len - n, a, b, script_cut (pre := []) h _ _ (Nat.add_sub_of_le (Nat.sub_le ..))⟩
  · have ⟨h1, h2, ⟨ho, hn, _⟩, _⟩ := h
    subst h1 h2
    exact ⟨0, x.oi, x.ni, rfl, rfl,
      ⟨Nat.le_of_add_right_le ho, Nat.le_of_add_right_le hn, fun _ e => by cases e; rfl⟩, h⟩

theorem trimLast_script {old new : List Nat} {oi ni : Nat} {xs : List IOp} (n : Nat)
    (h : Script old new oi ni xs) : Script old new oi ni (trimLast n xs) := by
  rcases trimLast_cases n xs with e | ⟨pre, len, a, b, rfl, e⟩ <;> rw [e]
  · exact h
  · obtain ⟨hp, h1, h2, hok, hcut⟩ := (script_append ..).mp (script_cut h _ (len - n) (Nat.sub_add_cancel (Nat.sub_le ..)))
    exact (script_append ..).mpr ⟨hp, h1, h2, hok, script_skip hcut⟩

/-- the loop invariant of `group_diff_ops`, carried through the strict applier: the applier's cursor `(c, cn)` stands
`k` common lines in front of the pending group; these lines are carried as an Equal in front of the script (with
whatever index fields a cut left on it), so that closing a group on a long Equal (`script_cut` twice: its first `n`
lines, the lines left out, its last `n` lines) yields the next instance of the invariant as it stands -/
theorem loop (old new : List Nat) (n : Nat) (rest : List IOp) :
    ∀ (pending : List IOp) (c cn k a b : Nat),
      Script old new c cn (⟨.equal k, a, b⟩ :: (pending ++ rest)) →
      applyU c cn (old.drop c) ((groupLoop n pending rest).map (mkHunk old new)) = some (new.drop cn) := by
  induction rest with
  | nil =>
    intro pending c cn k a b h
    rw [groupLoop_nil]
    split
    · exact congrArg some (script_skip h)
    · obtain ⟨h1, h2, hok, h'⟩ := h
      exact congrArg some (script_skip ⟨h1, h2, hok, script_skip h'⟩)
    · rename_i hne _
      exact hunk_step h hne fun _ _ h' => congrArg some h'
  | cons x rest ih =>
    intro pending c cn k a b h
    rcases groupLoop_cons n pending x rest with ⟨len, oi, ni, rfl, hlen, e⟩ | e <;> rw [e]
    · have hn : n ≤ len - n := Nat.le_sub_of_add_le (Nat.mul_two n ▸ Nat.le_of_lt hlen)
      have h := script_cut (pre := _ :: pending) h (len - n) (len - (len - n)) (Nat.add_sub_of_le (Nat.sub_le ..))
      have h := script_cut (pre := _ :: pending) h n (len - n - n) (Nat.add_sub_of_le hn)
      rw [List.append_cons, List.cons_append] at h
      exact hunk_step h (List.append_ne_nil_of_right_ne_nil _ (List.cons_ne_nil _ _)) fun _ _ => ih [_] _ _ _ _ _
    · refine ih (pending ++ [x]) c cn k a b ?_
      rwa [List.append_assoc]

theorem script_of_valid (old new : List Nat) (xs : List IOp) : ∀ oi ni, InOrder oi ni xs = true →
    Valid (xs.map (·.op)) (old.drop oi) (new.drop ni) = true → oi ≤ old.length → ni ≤ new.length →
    Script old new oi ni xs := by
  induction xs with
  | nil =>
    intro oi ni _ hv _ _
    obtain ⟨ho, hn⟩ := DiffLemmas.valid_nil hv
    exact ho.trans hn.symm
  | cons x xs ih =>
    intro oi ni hs hv ho hn
    obtain ⟨rfl, rfl, hs⟩ := DiffLemmas.inOrder_cons.mp hs
    obtain ⟨vo, vn, veq, _, hv⟩ := DiffLemmas.valid_cons (op := x.op) hv
    rw [List.length_drop] at vo vn
    rw [List.drop_drop, List.drop_drop] at hv
    have bo := Nat.add_le_of_le_sub' ho vo
    have bn := Nat.add_le_of_le_sub' hn vn
    exact ⟨rfl, rfl, ⟨bo, bn, veq⟩, ih _ _ hs hv bo bn⟩

/-- the strict applier accepts the hunks `similar` builds from a script, for any context radius and from any
position the script starts at, and produces the rest of the new file -/
theorem unified_from (n : Nat) (xs : List IOp) (old new : List Nat) (oi ni : Nat) (h : Script old new oi ni xs) :
    applyU oi ni (old.drop oi) (hunks n xs old new) = some (new.drop ni) := by
  cases xs with
  | nil => exact congrArg some h
  | cons x xs =>
    obtain ⟨k, a, b, h1, h2, hok, ht⟩ := trimHead_script n h
    rw [hunks_cons]
    exact loop old new n _ [] oi ni k a b ⟨h1, h2, hok, trimLast_script n ht⟩

theorem equalLines_cons (op : Op) (rest : List Op) :
    equalLines (op :: rest) = (if DiffLemmas.isEqualOp op then oldLen op else 0) + equalLines rest := by
  cases op with
  | equal _ => rfl
  | _ => exact (Nat.zero_add _).symm

theorem newLen_of_equal {op : Op} (h : DiffLemmas.isEqualOp op = true) : newLen op = oldLen op := by
  cases op with
  | equal _ => rfl
  | _ => cases h

/-- a valid script tiles both files, an Equal contributes its length to both and every other operation at least
one line to one of them: twice the equal lines reach the sum of the lengths only if there is nothing else -/
theorem lengths_of_valid (ops : List Op) : ∀ old new, Valid ops old new = true →
    2 * equalLines ops ≤ old.length + new.length ∧
      (2 * equalLines ops = old.length + new.length ↔ ops.all DiffLemmas.isEqualOp = true) := by
  induction ops with
  | nil =>
    intro old new h
    obtain ⟨rfl, rfl⟩ := DiffLemmas.valid_nil h
    exact ⟨Nat.le_refl _, iff_of_true rfl rfl⟩
  | cons op rest ih =>
    intro old new h
    obtain ⟨ho, hn, _, hne, hr⟩ := DiffLemmas.valid_cons h
    have ⟨ih1, ih2⟩ := ih _ _ hr
    have eo : (old.drop (oldLen op)).length + oldLen op = old.length := by
      rw [List.length_drop]; exact Nat.sub_add_cancel ho
    have en : (new.drop (newLen op)).length + newLen op = new.length := by
      rw [List.length_drop]; exact Nat.sub_add_cancel hn
    rw [List.all_cons, Bool.and_eq_true, ← ih2, ← eo, ← en, equalLines_cons]
    cases hq : DiffLemmas.isEqualOp op
    · have := hne hq
      simp only [Bool.false_eq_true, if_false, false_and, iff_false]
      omega
    · have := newLen_of_equal hq
      simp only [if_true, true_and]
      omega

theorem ratio_iff (ops : List Op) (old new : List Nat) (h : Valid ops old new = true) :
    ratioIsOne ops old.length new.length = true ↔ ops.all DiffLemmas.isEqualOp = true :=
  decide_eq_true_iff.trans (lengths_of_valid ops old new h).2

/-- the three shapes of a printed range, by its length: 0, 1, at least 2 -/
theorem range_roundtrip (s e : Nat) : decodeRange (encodeRange s e) = (s, e - s) := by
  unfold encodeRange
  generalize e - s = len
  match len with
  | 0 => rfl
  | 1 => rfl
  | _ + 2 => rfl

def hasChange (xs : List IOp) : Bool := xs.any fun x => !DiffLemmas.isEqualOp x.op

theorem groupLoop_nonempty (n : Nat) (rest : List IOp) : ∀ pending,
    hasChange (pending ++ rest) = true → groupLoop n pending rest ≠ [] := by
  induction rest with
  | nil =>
    intro pending h
    rw [List.append_nil] at h
    rw [groupLoop_nil]
    split
    · cases h
    · cases h
    · exact List.cons_ne_nil _ _
  | cons x rest ih =>
    intro pending h
    rcases groupLoop_cons n pending x rest with ⟨_, _, _, _, _, e⟩ | e <;> rw [e]
    · exact List.cons_ne_nil _ _
    · exact ih _ (by rwa [List.append_assoc])

theorem hasChange_trimHead (n : Nat) (xs : List IOp) : hasChange (trimHead n xs) = hasChange xs := by
  unfold trimHead
  split <;> rfl

theorem hasChange_trimLast (n : Nat) (xs : List IOp) : hasChange (trimLast n xs) = hasChange xs := by
  rcases trimLast_cases n xs with e | ⟨pre, len, oi, ni, rfl, e⟩ <;> rw [e]
  simp only [hasChange, List.any_append]
  rfl

theorem hunks_nonempty (n : Nat) (xs : List IOp) (old new : List Nat) (h : hasChange xs = true) :
    hunks n xs old new ≠ [] := by
  cases xs with
  | nil => cases h
  | cons x xs =>
    rw [hunks_cons]
    intro hm
    exact groupLoop_nonempty n _ [] (by rwa [List.nil_append, hasChange_trimLast, hasChange_trimHead])
      (List.map_eq_nil_iff.mp hm)

theorem render_nonempty (text : Nat → String) (hs : List Hunk) (h : hs ≠ []) : (render text hs).length ≠ 0 := by
  cases hs with
  | nil => exact absurd rfl h
  | cons a r => simp [render]

theorem renumber_ops (xs : List IOp) : ∀ oi ni, (renumber oi ni xs).map (·.op) = xs.map (·.op) := by
  induction xs with
  | nil => intro _ _; rfl
  | cons x r ih => intro oi ni; exact congrArg (x.op :: ·) (ih _ _)

theorem renumber_inOrder (xs : List IOp) : ∀ oi ni, InOrder oi ni (renumber oi ni xs) = true := by
  induction xs with
  | nil => intro _ _; rfl
  | cons x r ih => intro oi ni; exact DiffLemmas.inOrder_cons.mpr ⟨rfl, rfl, ih _ _⟩

theorem renumber_id (xs : List IOp) : ∀ oi ni, InOrder oi ni xs = true → renumber oi ni xs = xs := by
  induction xs with
  | nil => intro _ _ _; rfl
  | cons x r ih =>
    intro oi ni h
    obtain ⟨rfl, rfl, hr⟩ := DiffLemmas.inOrder_cons.mp h
    exact congrArg (x :: ·) (ih _ _ hr)

end StyluaModel.UnifiedLemmas
