import StyluaModel.Spec.TypeSpec
namespace StyluaModel.TypeLemmas
open StyluaModel.TypeParen StyluaModel.TypeSpec

/-- structural induction on `Ty` and on the lists nested in it, both conclusions at once -/
theorem Ty.ind {P : Ty → Prop} {Q : List Ty → Prop} (basic : ∀ n, P (.basic n)) (opt : ∀ t, P t → P (.opt t))
    (union : ∀ ts, Q ts → P (.union ts)) (inter : ∀ ts, Q ts → P (.inter ts))
    (fn : ∀ args ret, Q args → P ret → P (.fn args ret)) (paren : ∀ t, P t → P (.paren t))
    (pack : ∀ ts, Q ts → P (.pack ts)) (variadic : ∀ t, P t → P (.variadic t))
    (generic : ∀ n ts, Q ts → P (.generic n ts)) (tbl : ∀ ts, Q ts → P (.tbl ts))
    (indexer : ∀ k w, P k → P w → P (.indexer k w)) (nil : Q []) (cons : ∀ t ts, P t → Q ts → Q (t :: ts)) :
    (∀ t, P t) ∧ ∀ ts, Q ts :=
  ⟨Ty.rec basic opt union inter fn paren pack variadic generic tbl indexer nil cons,
   Ty.rec_1 basic opt union inter fn paren pack variadic generic tbl indexer nil cons⟩

theorem cur : current.ctxIntoParen = true := rfl

theorem keep_wg (x : Ty) {c : Ctx} (h : c.wg = true) : keep x c = true := by
  unfold keep
  split <;> simp only [h, Bool.or_true]

/-- under `within_generic` the head parenthesis of an argument survives (and none is invented) -/
theorem reparen_fmtT (v : Variant) (o : List Nat → Bool) (t s : Ty) (p : List Nat) (c : Ctx) (h : c.wg = true) :
    reparen (fmtT v o p c t) s = reparen t s := by
  cases t with
  | paren x => simp only [fmtT, keep_wg x h, if_true]; split <;> rfl
  | pack ts => simp only [fmtT]; split <;> rfl
  | _ => rfl

/-- for every variant: the seeded change breaks re-parsing, not the meaning of the tree -/
theorem sem_fmt (v : Variant) (o : List Nat → Bool) :
    (∀ t p c, sem (fmtT v o p c t) = sem t) ∧
    ∀ ts p i c, semL (fmtL v o p i c ts) = semL ts ∧
      (c.wg = true → semG (fmtL v o p i c ts) = semG ts) := by
  apply Ty.ind
  case paren =>
    intro t ih p c
    -- kept or dropped, `sem` forgets the parenthesis: every branch means `sem t`
    simp only [fmtT, apply_ite sem, sem, ih, ite_self]
  case pack => intro ts ih p c; simp only [fmtT, sem, apply_ite semL, ih, ite_self]
  case nil => intro p i c; exact ⟨rfl, fun _ => rfl⟩
  case cons =>
    intro t ts iht ihts p i c
    simp only [fmtL, semL, semG, iht, ihts, true_and]
    intro h
    rw [(ihts _ _ c).2 h, reparen_fmtT v o t _ _ c h]
  -- every other constructor is rebuilt around its formatted parts
  all_goals intros; simp only [fmtT, sem, *]

theorem sem_fmtT (o : List Nat → Bool) : ∀ (t : Ty) (p : List Nat) (c : Ctx), sem (fmtT current o p c t) = sem t :=
  (sem_fmt current o).1

theorem semL_fmtL (o : List Nat → Bool) : ∀ (ts : List Ty) (p : List Nat) (i : Nat) (c : Ctx),
    semL (fmtL current o p i c ts) = semL ts :=
  fun ts p i c => ((sem_fmt current o).2 ts p i c).1

/-- under `within_generic` no parenthesis is ever dropped, so a one-element pack stays one -/
theorem semG_fmtL (o : List Nat → Bool) : ∀ (ts : List Ty) (p : List Nat) (i : Nat) (c : Ctx), c.wg = true →
    semG (fmtL current o p i c ts) = semG ts :=
  fun ts p i c => ((sem_fmt current o).2 ts p i c).2

/-- a parenthesis that the rule drops stood around something that may stand bare there -/
theorem drop_ok (x : Ty) (c : Ctx) (pos : Pos) (hk : keep x c = false) (hc : covers c pos = true) :
    okAt pos x = true := by
  cases pos with
  | top | genArg => rfl
  | _ =>
    -- a compound head at a sensitive position: the flags `keep` found cleared include one that `covers` demands
    cases x <;> first
      | rfl
      | (simp only [keep, Bool.or_eq_false_iff] at hk; simp only [covers, hk] at hc; cases hc)

/-- the position enters `wf` through the head constructor only -/
theorem wf_of_okAt {pos : Pos} {t : Ty} (hok : okAt pos t = true) (hw : wf .top t = true) : wf pos t = true := by
  have top (x : Ty) : okAt .top x = true := rfl
  cases t <;> simp only [wf, hok, top, Bool.true_and] at hw ⊢ <;> exact hw

/-- `parenable` rides along: a kept parenthesis needs it of its formatted content -/
theorem wf_fmt (o : List Nat → Bool) :
    (∀ t pos p c, wf pos t = true → covers c pos = true →
      wf pos (fmtT current o p c t) = true ∧ (parenable t = true → parenable (fmtT current o p c t) = true)) ∧
    ∀ ts pos p i c, wfL pos ts = true → covers c pos = true → wfL pos (fmtL current o p i c ts) = true := by
  apply Ty.ind
  case basic => intro n pos p c h _; exact ⟨h, id⟩
  case opt =>
    intro t ih pos p c h _
    simp only [fmtT, wf, Bool.and_eq_true] at h ⊢
    -- `okAt` looks at the head constructor only, and that is rebuilt
    exact ⟨⟨by cases pos <;> exact h.1, (ih .optBase _ _ h.2 rfl).1⟩, id⟩
  case union =>
    intro ts ih pos p c h _
    simp only [fmtT, wf, Bool.and_eq_true] at h ⊢
    exact ⟨⟨by cases pos <;> exact h.1, ih .uMember _ _ _ h.2 rfl⟩, id⟩
  case inter =>
    intro ts ih pos p c h _
    simp only [fmtT, wf, Bool.and_eq_true] at h ⊢
    exact ⟨⟨by cases pos <;> exact h.1, ih .iMember _ _ _ h.2 rfl⟩, id⟩
  case fn =>
    intro args ret iha ihr pos p c h _
    simp only [fmtT, wf, Bool.and_eq_true] at h ⊢
    exact ⟨⟨⟨by cases pos <;> exact h.1.1, iha .top _ _ _ h.1.2 rfl⟩, (ihr .top _ _ h.2 rfl).1⟩, id⟩
  case paren =>
    intro t ih pos p c h hc
    simp only [wf, Bool.and_eq_true] at h
    have kept (c') : wf pos (.paren (fmtT current o (0 :: p) c' t)) = true ∧
        (parenable (.paren t) = true → parenable (.paren (fmtT current o (0 :: p) c' t)) = true) := by
      have := ih .top (0 :: p) c' h.2 rfl
      simp only [wf, Bool.and_eq_true]
      exact ⟨⟨this.2 h.1, this.1⟩, id⟩
    simp only [fmtT, cur, if_true]
    split
    · exact kept _
    · split
      · exact kept _
      · rename_i hk
        -- the content may stand bare at this position, and was well-formed as a whole type
        have := ih pos (0 :: p) c (wf_of_okAt (drop_ok t c pos (by simpa using hk) hc) h.2) hc
        exact ⟨this.1, fun _ => this.2 h.1⟩
  case pack => intro ts ih pos p c h _; simp only [fmtT]; split <;> exact ⟨ih .top _ _ _ h rfl, id⟩
  case variadic => intro t ih pos p c h _; exact ⟨(ih .varOperand _ _ h rfl).1, id⟩
  case generic => intro n ts ih pos p c h _; exact ⟨ih .genArg _ _ _ h rfl, id⟩
  case tbl => intro ts ih pos p c h _; exact ⟨ih .top _ _ _ h rfl, id⟩
  case indexer =>
    intro k w ihk ihw pos p c h _
    simp only [fmtT, wf, Bool.and_eq_true] at h ⊢
    exact ⟨⟨(ihk .top _ _ h.1 rfl).1, (ihw .top _ _ h.2 rfl).1⟩, id⟩
  case nil => intros; rfl
  case cons =>
    intro t ts iht ihts pos p i c h hc
    simp only [fmtL, wfL, Bool.and_eq_true] at h ⊢
    exact ⟨(iht pos _ c h.1 hc).1, ihts pos p _ c h.2 hc⟩

theorem wf_fmtT (o : List Nat → Bool) (t : Ty) (pos : Pos) (p : List Nat) (c : Ctx) (hw : wf pos t = true)
    (hc : covers c pos = true) : wf pos (fmtT current o p c t) = true :=
  ((wf_fmt o).1 t pos p c hw hc).1

theorem wfL_fmtL (o : List Nat → Bool) : ∀ (ts : List Ty) (pos : Pos) (p : List Nat) (i : Nat) (c : Ctx),
    wfL pos ts = true → covers c pos = true → wfL pos (fmtL current o p i c ts) = true :=
  (wf_fmt o).2

end StyluaModel.TypeLemmas
