/- Rewriting rules for `commentsOut` (Props/C03.lean, C10.lean). `commentsOut` is a `filterMap`, so it commutes with
every operation of Model/Trivia, Semi, HangOp, EndToken and Eof that rearranges a list or pads it with white space;
each theorem of C03 about a model function is that function unfolded and rewritten with these rules. -/
import StyluaModel.Model.HangOp
import StyluaModel.Model.EndToken
import StyluaModel.Model.Eof

namespace StyluaModel.SemiLemmas
open StyluaModel.Trivia StyluaModel.Semi

def norm (eol : List Char) (l : List (CKind × List Char)) : List (CKind × List Char) :=
  l.map fun c => (c.1, fmtText eol c.1 c.2)

theorem semi_absent (eol : List Char) (T : List Out) (sl st : List Triv) :
    outs (fmtSemi eol false false T sl st) = T := by
  simp [fmtSemi, outs, List.filterMap_map]

end StyluaModel.SemiLemmas

namespace StyluaModel.TableFieldLemmas
open StyluaModel.Trivia

def blocksOf : List Triv → List (CKind × List Char)
  | [] => []
  | .comment (.block l) t :: r => (.block l, t) :: blocksOf r
  | _ :: r => blocksOf r

def linesOf (eol : List Char) : List Triv → List (CKind × List Char)
  | [] => []
  | .comment .line t :: r => (.line, fmtText eol .line t) :: linesOf eol r
  | _ :: r => linesOf eol r

end StyluaModel.TableFieldLemmas

namespace StyluaModel.CallArgLemmas
open StyluaModel.Trivia

def isBlockC (c : CKind × List Char) : Bool := match c.1 with | .block _ => true | _ => false
def isLineC (c : CKind × List Char) : Bool := match c.1 with | .line => true | _ => false

end StyluaModel.CallArgLemmas

namespace StyluaModel.TriviaLemmas
open StyluaModel.Trivia

def asComment : Out → Option (CKind × List Char)
  | .comment k t => some (k, t)
  | _ => none

theorem commentsOut_eq (l : List Out) : commentsOut l = l.filterMap asComment := by
  fun_induction commentsOut l <;> simp only [List.filterMap_cons, List.filterMap_nil, asComment, *]

theorem commentsOut_append (a b : List Out) : commentsOut (a ++ b) = commentsOut a ++ commentsOut b := by
  simp only [commentsOut_eq, List.filterMap_append]

theorem commentsOut_reverse (l : List Out) : commentsOut l.reverse = (commentsOut l).reverse := by
  simp only [commentsOut_eq, List.filterMap_reverse]

theorem commentsOut_flatMap (f : Out → List Out) (h : ∀ c, commentsOut (f c) = commentsOut [c]) (l : List Out) :
    commentsOut (l.flatMap f) = commentsOut l := by
  induction l with
  | nil => rfl
  | cons x r ih => rw [List.flatMap_cons, commentsOut_append, h, ih, ← commentsOut_append]; rfl

theorem commentsOut_fmtComment (eol : List Char) (p : Pos) (k : CKind) (t : List Char) :
    commentsOut (fmtComment eol p k t) = [(k, fmtText eol k t)] := by
  cases k <;> cases p <;> rfl

theorem commentsOut_ite_ws (c : Bool) (o : Out) (h : ∀ k t, o ≠ .comment k t) :
    commentsOut (if c then [o] else []) = [] := by
  cases c
  · rfl
  · cases o with
    | comment k t => exact absurd rfl (h k t)
    | _ => rfl

theorem load_comments (eol : List Char) (p : Pos) (nl : Nat) (skip : Bool) (t : List Triv) :
    commentsOut (loadAux eol p nl skip t) = SemiLemmas.norm eol (commentsIn t) := by
  fun_induction loadAux eol p nl skip t with
  | case1 => rfl
  -- white space that may print a line ending (leading) or a blank (trailing)
  | case3 nl skip rest hp _ ih => subst hp; rw [commentsOut_append, ih]; split <;> rfl
  | case5 nl skip hasNl rest hp ih => subst hp; rw [commentsOut_append, ih]; split <;> rfl
  | case6 nl skip k txt rest ih =>
    simp only [commentsOut_append, commentsOut_fmtComment, commentsIn, SemiLemmas.norm, List.map_cons, ih]
    rfl
  | _ => subst p; assumption

theorem commentsOut_load (eol : List Char) (p : Pos) (t : List Triv) :
    commentsOut (load eol p t) = SemiLemmas.norm eol (commentsIn t) :=
  load_comments eol p 0 false t

theorem commentsIn_append (a b : List Triv) : commentsIn (a ++ b) = commentsIn a ++ commentsIn b := by
  fun_induction commentsIn a <;> simp only [List.cons_append, List.nil_append, commentsIn, *]

open StyluaModel.Semi StyluaModel.HangOp

theorem commentsOut_spaced (l : List Out) : commentsOut (l.flatMap (fun c => [Out.space, c])) = commentsOut l :=
  commentsOut_flatMap (fun c => [Out.space, c]) (fun _ => rfl) l

theorem commentsOut_sameLine (l : List Out) : commentsOut (sameLine l) = commentsOut l :=
  commentsOut_spaced l

theorem commentsOut_ownLine (l : List Out) : commentsOut (ownLine l) = commentsOut l :=
  commentsOut_flatMap (fun c => [Out.newline, Out.indent, c]) (fun _ => rfl) l

theorem commentsOut_lines (l : List Out) :
    commentsOut (l.flatMap (fun c => [Out.indent, c, Out.newline])) = commentsOut l :=
  commentsOut_flatMap (fun c => [Out.indent, c, Out.newline]) (fun c => by cases c <;> rfl) l

theorem outs_append (a b : List (Option Out)) : outs (a ++ b) = outs a ++ outs b := List.filterMap_append

theorem outs_map_some (l : List Out) : outs (l.map some) = l := by
  simp only [outs, List.filterMap_map, Function.comp_def, id, List.filterMap_some]

theorem outs_none : outs [none] = [] := rfl

theorem dropLast_snoc (l : List Out) (x : Out) : dropLast (l ++ [x]) = l := by
  simp [dropLast]

theorem commentsOut_raw (l : List Triv) : commentsOut (rawComments l) = commentsIn l := by
  fun_induction rawComments l <;> simp only [commentsOut, commentsIn, *]

open StyluaModel.FieldKey StyluaModel.TableField StyluaModel.CallArg StyluaModel.TableFieldLemmas StyluaModel.CallArgLemmas

theorem commentsOut_only (l : List Out) : commentsOut (onlyComments l) = commentsOut l := by
  fun_induction onlyComments l <;> simp only [commentsOut, *]

theorem rawBlocks_comments (l : List Triv) : commentsOut (rawBlocks l) = blocksOf l := by
  fun_induction rawBlocks l <;> simp only [blocksOf, commentsOut, *]

theorem movedLines_comments (eol : List Char) (l : List Triv) : commentsOut (movedLines eol l) = linesOf eol l := by
  fun_induction movedLines eol l <;>
    simp only [linesOf, commentsOut_append, commentsOut_fmtComment, commentsOut, List.singleton_append, *]

theorem blocksOut_comments (l : List Out) : commentsOut (blocksOut l) = (commentsOut l).filter isBlockC := by
  induction l with
  | nil => rfl
  | cons x r ih =>
    cases x with
    | comment k t => cases k <;> simp [blocksOut, commentsOut, isBlockC, ih, List.filter_cons]
    | _ => exact ih

theorem linesOut_comments (l : List Out) : commentsOut (linesOut l) = (commentsOut l).filter isLineC := by
  induction l with
  | nil => rfl
  | cons x r ih =>
    cases x with
    | comment k t => cases k <;> simp [linesOut, commentsOut, isLineC, ih, List.filter_cons]
    | _ => exact ih

theorem commentsOut_keyLeading (eol : List Char) (m single : Bool) (kl kt el et : List Triv) :
    commentsOut (keyLeading eol m single kl kt el et) =
      SemiLemmas.norm eol (commentsIn kl) ++ (if single then [] else SemiLemmas.norm eol (commentsIn kt)) ++
        commentsIn el ++ commentsIn et := by
  simp only [keyLeading, commentsOut_append, commentsOut_lines, apply_ite commentsOut, commentsOut_only, commentsOut_raw,
    commentsIn_append, commentsOut_load, commentsOut, ite_self, List.append_nil, List.append_assoc]

open StyluaModel.EndToken StyluaModel.Eof

theorem commentsOut_scan (stop : Bool) (l : List Out) : commentsOut (scan stop l) = commentsOut l := by
  fun_induction scan stop l <;> simp only [commentsOut, *]

theorem commentsOut_dropWhile (l : List Out) : commentsOut (l.dropWhile isWsOut) = commentsOut l := by
  induction l with
  | nil => rfl
  | cons x xs ih => cases x <;> simp only [List.dropWhile, isWsOut, commentsOut, ih]

theorem commentsOut_popWs (l : List Out) : commentsOut (popWs l) = commentsOut l := by
  rw [popWs, commentsOut_reverse, commentsOut_dropWhile, commentsOut_reverse, List.reverse_reverse]

theorem commentsOut_of_allWs (l : List Out) (h : l.all isWsOut = true) : commentsOut l = [] := by
  rw [commentsOut_eq, List.filterMap_eq_nil_iff]
  intro a ha
  cases a with
  | comment k t => cases List.all_eq_true.1 h _ ha
  | _ => rfl

end StyluaModel.TriviaLemmas
