/- Helper lemmas for Props/C18.lean (JSON mismatches). The recursive definitions of Model/Diff.lean
match on the four kinds of operation; their equations are stated here once, uniformly in `oldLen` / `newLen`. -/
import StyluaModel.Model.Unified
namespace StyluaModel.DiffLemmas
open StyluaModel.Diff

theorem firstOr_repaired (l : List Nat) : firstOr repaired l = l := rfl

/-- inserts the variant can report in full: all of them, or (pinned code: first line only) those of one line -/
def insertsOK (v : Variant) : List Op → Bool
  | [] => true
  | .insert n :: rest => (v.allLines || decide (n = 1)) && insertsOK v rest
  | _ :: rest => insertsOK v rest

def isEqualOp : Op → Bool
  | .equal _ => true
  | _ => false

open StyluaModel.Unified (oldLen newLen)

theorem valid_nil {old new : List Nat} (h : Valid [] old new = true) : old = [] ∧ new = [] := by
  simpa [Valid] using h

/-- what `Valid` asks of the first operation; only an operation that is not an Equal must be non-empty -/
theorem valid_cons {op : Op} {rest : List Op} {old new : List Nat} (h : Valid (op :: rest) old new = true) :
    oldLen op ≤ old.length ∧ newLen op ≤ new.length ∧ (∀ n, op = .equal n → old.take n = new.take n) ∧
      (isEqualOp op = false → 0 < oldLen op + newLen op) ∧
      Valid rest (old.drop (oldLen op)) (new.drop (newLen op)) = true := by
  cases op <;> simp only [Valid, Bool.and_eq_true, decide_eq_true_eq] at h
  case equal n => exact ⟨h.1.1.1, h.1.1.2, fun _ e => Op.equal.inj e ▸ h.1.2, nofun, h.2⟩
  case delete n => exact ⟨h.1.2, Nat.zero_le _, nofun, fun _ => h.1.1, h.2⟩
  case insert n => exact ⟨Nat.zero_le _, h.1.2, nofun, fun _ => Nat.lt_of_lt_of_le h.1.1 (Nat.le_add_left ..), h.2⟩
  case replace n m =>
    exact ⟨h.1.1.2, h.1.2, nofun, fun _ => Nat.lt_of_lt_of_le h.1.1.1.1 (Nat.le_add_right ..), h.2⟩

theorem inOrder_cons {oi ni : Nat} {x : IOp} {rest : List IOp} :
    InOrder oi ni (x :: rest) = true ↔
      x.oi = oi ∧ x.ni = ni ∧ InOrder (oi + oldLen x.op) (ni + newLen x.op) rest = true := by
  obtain ⟨op, a, b⟩ := x
  cases op <;> simp only [InOrder, Bool.and_eq_true, decide_eq_true_eq, oldLen, newLen, Nat.add_zero, and_assoc]

theorem insertsOK_cons {v : Variant} {op : Op} {rest : List Op} :
    insertsOK v (op :: rest) = true ↔
      (∀ n, op = .insert n → (v.allLines || decide (n = 1)) = true) ∧ insertsOK v rest = true := by
  cases op <;> simp only [insertsOK, Bool.and_eq_true, reduceCtorEq, false_imp_iff, implies_true, true_and,
    Op.insert.injEq, forall_eq']

theorem insertsOK_repaired (ops : List Op) : insertsOK repaired ops = true := by
  induction ops with
  | nil => rfl
  | cons op rest ih => exact insertsOK_cons.mpr ⟨fun _ _ => rfl, ih⟩

theorem mismatches_cons (v : Variant) (oi ni : Nat) (op : Op) (rest : List Op) (old new : List Nat) :
    mismatches v oi ni (op :: rest) old new = mismatches v oi ni [op] old new ++
      mismatches v (oi + oldLen op) (ni + newLen op) rest (old.drop (oldLen op)) (new.drop (newLen op)) := by
  cases op <;> rfl

theorem mismatchesI_cons (v : Variant) (x : IOp) (rest : List IOp) (old new : List Nat) :
    mismatchesI v (x :: rest) old new = mismatches v x.oi x.ni [x.op] old new ++
      mismatchesI v rest (old.drop (oldLen x.op)) (new.drop (newLen x.op)) := by
  obtain ⟨op, a, b⟩ := x
  cases op <;> rfl

/-- when `similar`'s index fields are the running positions, reading them off the operations is the
same as counting -/
theorem mismatchesI_seq (v : Variant) (xs : List IOp) : ∀ (oi ni : Nat) (old new : List Nat),
    InOrder oi ni xs = true → mismatchesI v xs old new = mismatches v oi ni (xs.map (·.op)) old new := by
  induction xs with
  | nil => intro _ _ _ _ _; rfl
  | cons x rest ih =>
    intro oi ni old new h
    obtain ⟨rfl, rfl, hr⟩ := inOrder_cons.mp h
    rw [mismatchesI_cons, ih _ _ _ _ hr]
    exact (mismatches_cons ..).symm

theorem firstOr_isEmpty (v : Variant) (l : List Nat) : (firstOr v l).isEmpty = l.isEmpty := by
  unfold firstOr
  split
  · rfl
  · cases l <;> rfl

theorem firstOr_insert (v : Variant) (n : Nat) (l : List Nat) (h : (v.allLines || decide (n = 1)) = true) :
    firstOr v (l.take n) = l.take n := by
  unfold firstOr
  split
  · rfl
  · rename_i hv
    simp only [hv, Bool.false_or, decide_eq_true_eq] at h
    subst h
    simp [List.take_take]

/-- the number of old lines the applier removes for a mismatch whose `original` covers `n` lines from `oi` -/
theorem removed_eq (l : List Nat) (n oi : Nat) (h : n ≤ l.length) :
    (if (l.take n).isEmpty then 0 else oi + n - 1 - oi + 1) = n := by
  cases n with
  | zero => rfl
  | succ k =>
    cases l with
    | nil => simp at h
    | cons _ _ => exact congrArg (· + 1) (Nat.add_sub_cancel_left ..)

/-- what the applier reads off the mismatch of a Delete / Insert / Replace: where it starts, the new lines (all of
them only if the variant records them) and how many old lines it covers -/
theorem mismatch_of_change (v : Variant) (oi ni : Nat) {op : Op} {old new : List Nat} (hne : isEqualOp op = false)
    (ho : oldLen op ≤ old.length) (hi : ∀ n, op = .insert n → (v.allLines || decide (n = 1)) = true) :
    ∃ m, mismatches v oi ni [op] old new = [m] ∧ m.originalStart = oi ∧ m.expected = new.take (newLen op) ∧
      (if m.original.isEmpty then 0 else m.originalEnd - oi + 1) = oldLen op := by
  cases op with
  | equal n => cases hne
  | delete n => exact ⟨_, rfl, rfl, rfl, by rw [firstOr_isEmpty]; exact removed_eq old n oi ho⟩
  | insert n => exact ⟨_, rfl, rfl, firstOr_insert v n new (hi n rfl), rfl⟩
  | replace n k => exact ⟨_, rfl, rfl, rfl, removed_eq old n oi ho⟩

/-- the applier's cursor `c` lags behind the script's position by the lines `pre` of the Equal operations since the
last mismatch, which have no mismatch of their own: the lines of an Equal join `pre`, any other operation makes the
applier copy `pre` and replace the operation's old lines by its new ones -/
theorem main_lag (v : Variant) (ops : List Op) : ∀ c ni old new pre,
    Valid ops old new = true → insertsOK v ops = true →
    apply c (pre ++ old) (mismatches v (c + pre.length) ni ops old new) = pre ++ new := by
  induction ops with
  | nil =>
    intro c ni old new pre h _
    obtain ⟨rfl, rfl⟩ := valid_nil h
    rfl
  | cons op rest ih =>
    intro c ni old new pre h hi
    obtain ⟨ho, _, heq, _, hr⟩ := valid_cons h
    obtain ⟨hi, hir⟩ := insertsOK_cons.mp hi
    by_cases hq : isEqualOp op = false
    · obtain ⟨m, e, hs, he, hk⟩ := mismatch_of_change v (c + pre.length) ni (new := new) hq ho hi
      have := ih (c + pre.length + oldLen op) (ni + newLen op) _ _ [] hr hir
      rw [List.nil_append, List.nil_append, List.length_nil, Nat.add_zero] at this
      simp only [mismatches_cons, e, List.singleton_append, apply, hs, he, hk, Nat.add_sub_cancel_left, List.take_left',
        List.drop_left', this, List.append_assoc, List.take_append_drop]
    · cases op with
      | equal n =>
        have := ih c (ni + n) (old.drop n) (new.drop n) (pre ++ old.take n) hr hir
        rw [mismatches]
        rwa [List.length_append, List.length_take_of_le (i := n) ho, ← Nat.add_assoc, List.append_assoc,
          List.take_append_drop, heq n rfl, List.append_assoc, List.take_append_drop] at this
      | _ => exact absurd rfl hq

theorem main (v : Variant) (ops : List Op) (oi ni : Nat) (old new : List Nat) (h : Valid ops old new = true)
    (hi : insertsOK v ops = true) : apply oi old (mismatches v oi ni ops old new) = new :=
  main_lag v ops oi ni old new [] h hi

theorem none_iff (v : Variant) (ops : List Op) : ∀ oi ni old new,
    (mismatches v oi ni ops old new = [] ↔ ops.all isEqualOp = true) := by
  induction ops with
  | nil => intro oi ni old new; simp [mismatches]
  | cons op rest ih =>
    intro oi ni old new
    cases op <;> simp only [mismatches, List.all_cons, isEqualOp, Bool.true_and, Bool.false_and, Bool.false_eq_true,
      reduceCtorEq, ih]

theorem equal_script_same (ops : List Op) : ∀ old new, Valid ops old new = true → ops.all isEqualOp = true → old = new := by
  induction ops with
  | nil => intro old new h _; obtain ⟨rfl, rfl⟩ := valid_nil h; rfl
  | cons op rest ih =>
    intro old new h ha
    obtain ⟨_, _, heq, _, hr⟩ := valid_cons h
    simp only [List.all_cons, Bool.and_eq_true] at ha
    cases op with
    | equal n =>
      have : old.drop n = new.drop n := ih _ _ hr ha.2
      rw [← List.take_append_drop n old, ← List.take_append_drop n new, heq n rfl, this]
    | _ => cases ha.1

end StyluaModel.DiffLemmas
