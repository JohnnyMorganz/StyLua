import StyluaModel.Model.Block
namespace StyluaModel.BlockLemmas
open StyluaModel.Block

/-- declarative reading of the region rule: the last `ignore start` / `ignore end` line seen
so far in this block (none: formatting enabled) -/
def lastStart : Bool → List Line → Bool
  | d, [] => d
  | d, l :: ls => lastStart (match l with | .ignoreStart => true | .ignoreEnd => false | _ => d) ls

theorem toggle_eq_lastStart (d : Bool) (ls : List Line) : toggle d ls = lastStart d ls := by
  induction ls generalizing d with
  | nil => rfl
  | cons l ls ih => cases l <;> simp [toggle, lastStart, ih]

theorem lastStart_append (d : Bool) (a b : List Line) : lastStart d (a ++ b) = lastStart (lastStart d a) b := by
  induction a generalizing d with
  | nil => rfl
  | cons l ls ih => simp [lastStart, ih]

/-- spec: which statements are skipped -/
def specSkip : List Line → List Stmt → List Bool
  | _, [] => []
  | seen, s :: rest =>
      (lastStart false (seen ++ s.lines) || s.lines.contains .ignore) :: specSkip (seen ++ s.lines) rest

def isSkip : Decision → Bool
  | .skip => true
  | _ => false

theorem isSkip_decide1 (d : Bool) (r : Option Range) (s : Stmt) :
    isSkip (decide1 d r s) = (d || s.lines.contains .ignore) := by
  unfold decide1
  cases d
  · cases h : s.lines.contains .ignore
    · simp only [Bool.false_eq_true, if_false, Bool.or_self]
      split <;> rfl
    · simp [isSkip]
  · simp [isSkip]

theorem outOf_decision (v : Variant) (r : Option Range) (first : Bool) (d : Decision) (s : Stmt) (n : Option Stmt) :
    (outOf v r first d s n).decision = d := rfl
theorem outOf_id (v : Variant) (r : Option Range) (first : Bool) (d : Decision) (s : Stmt) (n : Option Stmt) :
    (outOf v r first d s n).id = s.id := rfl

theorem decisions_skip (v : Variant) (r : Option Range) (seen : List Line) (first : Bool) (b : List Stmt) :
    (fmtStmts v r (lastStart false seen) first b).map (fun o => isSkip o.decision) = specSkip seen b := by
  induction b generalizing seen first with
  | nil => rfl
  | cons s rest ih =>
    simp only [fmtStmts, List.map_cons, specSkip, outOf_decision]
    rw [toggle_eq_lastStart, ← lastStart_append, isSkip_decide1]
    congr 1
    exact ih (seen ++ s.lines) false

theorem ids_preserved (v : Variant) (r : Option Range) (d first : Bool) (b : List Stmt) :
    (fmtStmts v r d first b).map (·.id) = b.map (·.id) := by
  induction b generalizing d first with
  | nil => rfl
  | cons s rest ih => simp [fmtStmts, ih, outOf_id]

theorem outOf_unformatted (r : Option Range) (first : Bool) (d : Decision) (s : Stmt) (n : Option Stmt)
    (h : d ≠ .normal) : (outOf repaired r first d s n).semi = s.semi ∧ (outOf repaired r first d s n).stripped = false := by
  cases d with
  | normal => exact absurd rfl h
  | _ => exact ⟨rfl, Bool.and_false _⟩

theorem outOf_formatted (v : Variant) (r : Option Range) (first : Bool) (s : Stmt) (n : Option Stmt) :
    (outOf v r first .normal s n).semi = requiresSemi s n :=
  if_neg (by simp)

theorem unformatted_kept (r : Option Range) (d first : Bool) (b : List Stmt) :
    ∀ p ∈ List.zip b (fmtStmts repaired r d first b),
      p.2.decision ≠ .normal → p.2.semi = p.1.semi ∧ p.2.stripped = false := by
  induction b generalizing d first with
  | nil => intro p hp; cases hp
  | cons s rest ih =>
    simp only [fmtStmts, List.zip_cons_cons, List.forall_mem_cons]
    exact ⟨outOf_unformatted r first _ s _, ih _ _⟩

/-- the input never has an expression-ending statement directly followed, without `;`, by a
statement that starts with `(` (the parser would have read the two as one call) -/
def InputSafe : List Stmt → Bool
  | [] => true
  | s :: rest => (!requiresSemi s rest.head? || s.semi) && InputSafe rest

/-- the same for the output: statement `s` with the semicolon decision `o` -/
def OutputSafe : List Stmt → List Out → Bool
  | s :: rest, o :: os => (!requiresSemi s rest.head? || o.semi) && OutputSafe rest os
  | _, _ => true

theorem output_safe (r : Option Range) (d first : Bool) (b : List Stmt) (h : InputSafe b = true) :
    OutputSafe b (fmtStmts repaired r d first b) = true := by
  induction b generalizing d first with
  | nil => rfl
  | cons s rest ih =>
    simp only [InputSafe, Bool.and_eq_true] at h
    simp only [fmtStmts, OutputSafe, Bool.and_eq_true]
    refine ⟨?_, ih _ _ h.2⟩
    by_cases hn : decide1 (toggle d s.lines) r s = .normal
    · rw [hn, outOf_formatted]; simp
    · rw [(outOf_unformatted r first _ s _ hn).1]; exact h.1

theorem decide1_normal_none (dis : Bool) (r : Range) (s : Stmt) (h : decide1 dis (some r) s = .normal) :
    decide1 dis none s = .normal := by
  unfold decide1 at h ⊢
  cases dis
  · cases hc : s.lines.contains .ignore
    · simp [inRange]
    · rw [hc] at h; simp at h
  · simp at h

theorem inside_same (r : Range) (d first : Bool) (b : List Stmt) :
    ∀ p ∈ List.zip (fmtStmts repaired (some r) d first b) (fmtStmts repaired none d first b),
      p.1.decision = .normal → p.1 = p.2 := by
  induction b generalizing d first with
  | nil => intro p hp; cases hp
  | cons s rest ih =>
    simp only [fmtStmts, List.zip_cons_cons, List.forall_mem_cons]
    refine ⟨fun hn => ?_, ih _ _⟩
    have hn' : decide1 (toggle d s.lines) (some r) s = .normal := hn
    rw [hn', decide1_normal_none _ r s hn']
    -- for a formatted statement the repaired loop does not look at the range again
    rfl

/-- the block with the decided semicolons written back -/
def applySemis : List Stmt → List Out → List Stmt
  | s :: rest, o :: os => { s with semi := o.semi } :: applySemis rest os
  | _, _ => []

theorem applySemis_head (r : Option Range) (d first : Bool) (b : List Stmt) :
    ((applySemis b (fmtStmts repaired r d first b)).head?).map (·.startsParen) = (b.head?).map (·.startsParen) := by
  cases b <;> rfl

theorem requiresSemi_congr (s : Stmt) (n m : Option Stmt) (h : n.map (·.startsParen) = m.map (·.startsParen)) :
    requiresSemi s n = requiresSemi s m := by
  unfold requiresSemi
  cases n <;> cases m <;> simp_all

theorem semis_idempotent (r : Option Range) (d first : Bool) (b : List Stmt) :
    (fmtStmts repaired r d first (applySemis b (fmtStmts repaired r d first b))).map (·.semi)
      = (fmtStmts repaired r d first b).map (·.semi) := by
  induction b generalizing d first with
  | nil => rfl
  | cons s rest ih =>
    simp only [fmtStmts, applySemis, List.map_cons]
    congr 1
    · have hreq := requiresSemi_congr s _ _ (applySemis_head r (toggle d s.lines) false rest)
      have hdec : ∀ b', decide1 (toggle d s.lines) r { s with semi := b' } = decide1 (toggle d s.lines) r s := fun _ => rfl
      rw [hdec]
      by_cases hn : decide1 (toggle d s.lines) r s = .normal
      · rw [hn, outOf_formatted, outOf_formatted]; exact hreq
      · rw [(outOf_unformatted r first _ _ _ hn).1, (outOf_unformatted r first _ s _ hn).1]
    · exact ih _ _

end StyluaModel.BlockLemmas
