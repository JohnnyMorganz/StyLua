/- Helper lemmas for Props/C04.lean: long-bracket bodies (line-ending conversion vs the value a Lua reader gives them). -/
import StyluaModel.Lemmas.Trivia
import StyluaModel.Spec.StrVal
namespace StyluaModel.LongLemmas
open StyluaModel.StrLit StyluaModel.StrVal StyluaModel.TriviaLemmas

theorem normNl_cr_lf (r : List Char) : normNl ('\r' :: '\n' :: r) = 10 :: normNl r := by rw [normNl]
theorem normNl_lf_cr (r : List Char) : normNl ('\n' :: '\r' :: r) = 10 :: normNl r := by rw [normNl]
theorem normNl_lf_other (c : Char) (r : List Char) (h : c ≠ '\r') : normNl ('\n' :: c :: r) = 10 :: normNl (c :: r) := by
  rw [normNl]
  · rfl
  · intro rest hh; cases hh
  · intro rest _ hh; cases hh; exact h rfl
theorem normNl_other (c : Char) (r : List Char) (h1 : c ≠ '\r') (h2 : c ≠ '\n') : normNl (c :: r) = utf8 c ++ normNl r := by
  rw [normNl]
  · simp [h1, h2]
  · intro rest hc _; exact h1 hc
  · intro rest hc _; exact h2 hc

theorem noLoneCR_of_noCR (l : List Char) (h : noCR l = true) : noLoneCR l = true := by
  induction l with
  | nil => rfl
  | cons c r ih =>
    obtain ⟨hc, hr⟩ := noCR_cons.1 h
    simpa only [noLoneCR, noLoneCRAux, Bool.false_eq_true, if_false, beq_false_of_ne hc] using ih hr

/-- after a line feed, a text without lone carriage returns reads on as if the line feed stood alone
(the `\n\r` pair of the Lua reader only matters when the `\r` is not itself the start of `\r\n`) -/
theorem normNl_lf (t : List Char) (h : noLoneCR t = true) : normNl ('\n' :: t) = 10 :: normNl t := by
  refine noLoneCR_ind (P := fun t => normNl ('\n' :: t) = 10 :: normNl t) rfl (fun r _ ih => ?_)
    (fun c r hc _ _ => normNl_lf_other c r hc) t h
  rw [normNl_lf_cr, normNl_cr_lf, ih]

theorem norm_crlfToLf (b : List Char) (h : noLoneCR b = true) : normNl (crlfToLf b) = normNl b := by
  refine noLoneCR_ind (P := fun b => normNl (crlfToLf b) = normNl b) rfl (fun r hr ih => ?_) (fun c r hc hr ih => ?_) b h
  · rw [crlfToLf_cr_lf, normNl_cr_lf, normNl_lf _ (noLoneCR_of_noCR _ (noCR_crlfToLf r hr)), ih]
  · rw [crlfToLf_cons_ne c r hc]
    by_cases hn : c = '\n'
    · subst hn
      rw [normNl_lf _ (noLoneCR_of_noCR _ (noCR_crlfToLf r hr)), normNl_lf r hr, ih]
    · rw [normNl_other c _ hc hn, normNl_other c _ hc hn, ih]

theorem norm_lfToCrlf (l : List Char) (h : noCR l = true) : normNl (lfToEol ['\r', '\n'] l) = normNl l := by
  induction l with
  | nil => rfl
  | cons c r ih =>
    obtain ⟨hc, hr⟩ := noCR_cons.1 h
    by_cases hn : c = '\n'
    · subst hn
      rw [lfToEol_cons_lf, List.cons_append, List.cons_append, List.nil_append, normNl_cr_lf, ih hr,
        normNl_lf r (noLoneCR_of_noCR r hr)]
    · rw [lfToEol_cons_ne _ hn, normNl_other c _ hc hn, normNl_other c _ hc hn, ih hr]

theorem long_value (eol : List Char) (he : eol = ['\n'] ∨ eol = ['\r', '\n']) (b : List Char)
    (h : noLoneCR b = true) : decodeLong (rewriteLong eol b) = decodeLong b := by
  unfold decodeLong rewriteLong
  rcases he with rfl | rfl
  · rw [lfToEol_lf, norm_crlfToLf b h]
  · rw [norm_lfToCrlf _ (noCR_crlfToLf b h), norm_crlfToLf b h]
end StyluaModel.LongLemmas
