/- `Good`, what both paths of the parenthesis rule keep (for Props/C05, C01, C02): a preorder that holds of the rule's
two edits (`good_drop`, `good_guard`) and passes from the operands to a node. -/
import StyluaModel.Model.ParenRule
import StyluaModel.Spec.Prec

namespace StyluaModel.ParenLemmas
open StyluaModel StyluaModel.ParenRule StyluaModel.Prec Expr

/-- every parenthesis drop that context `ctx` permits is harmless at position `p` -/
def dropOK (ctx : Ctx) (p : Pos) : Bool :=
  match p with
  | .top => true
  | .binL .caret => decide (ctx = .binLhsExp) || keepParens ctx
  | .assertOperand => keepParens ctx
  | _ => decide (ctx ≠ .std)   -- an operand is never formatted in the Standard context

theorem dropOK_binL (ctx : Ctx) (o : BinOp) : dropOK ctx (.binL o) =
    if o = .caret then decide (ctx = .binLhsExp) || keepParens ctx else decide (ctx ≠ .std) := by
  cases o <;> rfl

theorem dropOK_std {p : Pos} (h : dropOK .std p = true) : p = .top := by
  cases p with
  | top => rfl
  | binL o => rw [dropOK_binL] at h; split at h <;> cases h
  | unOperand | binR | assertOperand => cases h

theorem dropOK_top (ctx : Ctx) : dropOK ctx .top = true := rfl
theorem dropOK_tassert : dropOK .tassert .assertOperand = true := rfl

/-- context of a left operand on the hanging path; `lhsCtx op` is `hctx op .binLhs` -/
def hctx (op : BinOp) (ctx : Ctx) : Ctx := if op = .caret then .binLhsExp else ctx

theorem dropOK_hctx (op : BinOp) (ctx : Ctx) (hs : ctx ≠ .std) : dropOK (hctx op ctx) (.binL op) = true := by
  rw [dropOK_binL, hctx]
  split
  · rfl
  · exact decide_eq_true hs

theorem dropOK_lhsCtx (op : BinOp) : dropOK (lhsCtx op) (.binL op) = true := dropOK_hctx op .binLhs (by decide)

theorem hctx_ne_std (op : BinOp) (ctx : Ctx) (hs : ctx ≠ .std) : hctx op ctx ≠ .std := by
  unfold hctx; split <;> simp [hs]

theorem faithful_un {op : UnOp} {e : Expr} : faithful (un op e) = true ↔
    okAt (.unOperand op) e = true ∧ minusClash op e = false ∧ faithful e = true := by
  simp only [faithful, Bool.and_eq_true, Bool.not_eq_eq_eq_not, Bool.not_true, and_assoc]

theorem faithful_bin {op : BinOp} {l r : Expr} : faithful (bin op l r) = true ↔
    (okAt (.binL op) l = true ∧ okAt (.binR op) r = true) ∧ faithful l = true ∧ faithful r = true := by
  simp only [faithful, Bool.and_eq_true, and_assoc]

theorem faithful_assert {e : Expr} : faithful (assert e) = true ↔
    okAt .assertOperand e = true ∧ faithful e = true := by
  simp only [faithful, Bool.and_eq_true]

theorem checkExcess_un {op e ctx} : checkExcess (un op e) ctx = true ↔
    ¬ (ctx = .binLhsExp ∨ ctx = .binLhs ∧ op = .not) ∧ checkExcess e ctx = true := by
  simp only [checkExcess]
  split
  · simp [*]
  · split <;> simp [*]

/-- L3: at an operand position only unary operators over an atom or a parenthesis are let through -/
theorem checkExcess_closed {e ctx p} (h : checkExcess e ctx = true) (hk : ¬ keepParens ctx = true)
    (hd : dropOK ctx p = true) (hp : p ≠ .top) : rightOpen e = false ∧ endsWithType e = false := by
  induction e with
  | un op e ih => exact ih (checkExcess_un.1 h).2
  | atom | paren => exact ⟨rfl, rfl⟩
  | call | varargs | bin | ifx => cases h
  | assert e =>
    cases ctx
    case std => exact absurd (dropOK_std hd) hp
    case «prefix» | tassert => exact absurd rfl hk
    case unOrBin | binLhs | binLhsExp => cases h

theorem truncate_truncate (s : Sem) : truncate (truncate s) = truncate s := by
  cases s <;> rfl

/-- L2: what is let through is a single value -/
theorem checkExcess_sem {e ctx} (h : checkExcess e ctx = true) : truncate (sem e) = sem e := by
  cases e with
  | paren e => exact truncate_truncate _
  | atom | un | assert => rfl
  | call | varargs | bin | ifx => cases h

theorem prec_le_of_ne_caret (op : BinOp) (h : op ≠ .caret) : op.prec ≤ unPrec := by
  cases op <;> first | decide | exact absurd rfl h

theorem okAt_paren (p : Pos) (e : Expr) : okAt p (paren e) = true := by
  cases p <;> simp [okAt, rightOpen, endsWithType]

theorem okAt_atom (p : Pos) (n : Nat) : okAt p (atom n) = true := by
  cases p <;> simp [okAt, rightOpen, endsWithType]

/-- L1: what a permitted drop exposes may stand bare at that position -/
theorem checkExcess_okAt {e ctx p} (h : checkExcess e ctx = true)
    (hk : ¬ keepParens ctx = true) (hd : dropOK ctx p = true) : okAt p e = true := by
  by_cases hp : p = .top
  · rw [hp]; rfl
  have hcl := checkExcess_closed h hk hd hp
  cases e with
  | atom n => exact okAt_atom p n
  | paren e => exact okAt_paren p e
  | call | varargs | bin | ifx => cases h
  | assert e => cases hcl.2
  | un op e =>
    cases p with
    | top | unOperand | binR => rfl
    | assertOperand => exact absurd hd hk
    | binL o =>
      -- in front of `^` the context is `BinaryLHSExponent`, which lets no unary operator through
      have ho : o ≠ .caret := fun ho =>
        (checkExcess_un.1 h).1 (.inl (by simpa [ho, dropOK_binL, hk] using hd))
      simp [okAt, hcl.1, hcl.2, prec_le_of_ne_caret o ho]

/-- `r` is not more open at its right edge than `e` -/
def EdgeLe (r e : Expr) : Prop :=
  (rightOpen r = true → rightOpen e = true) ∧ (endsWithType r = true → endsWithType e = true)

theorem EdgeLe.refl (e : Expr) : EdgeLe e e := ⟨id, id⟩
theorem EdgeLe.trans {a b c : Expr} (h1 : EdgeLe a b) (h2 : EdgeLe b c) : EdgeLe a c :=
  ⟨fun h => h2.1 (h1.1 h), fun h => h2.2 (h1.2 h)⟩
theorem edgeLe_paren (r e : Expr) : EdgeLe (paren r) e := ⟨fun h => Bool.noConfusion h, fun h => Bool.noConfusion h⟩
/-! the right edge of a unary or binary node is that of its (right) operand, by definition -/
theorem edgeLe_un (op : UnOp) {r e : Expr} (h : EdgeLe r e) : EdgeLe (un op r) (un op e) := h
theorem edgeLe_bin (op : BinOp) (l l' : Expr) {r e : Expr} (h : EdgeLe r e) : EdgeLe (bin op l' r) (bin op l e) := h

/-! `okAt` looks at the head of an operand and at its right edge only -/
theorem edge_ok {o : BinOp} {c c'} (h : EdgeLe c' c)
    (hc : (!rightOpen c) = true ∧ (!(o == .lt && endsWithType c)) = true) :
    (!rightOpen c') = true ∧ (!(o == .lt && endsWithType c')) = true := by
  simp only [Bool.not_eq_true', Bool.eq_false_iff, ne_eq, Bool.and_eq_true, not_and] at hc ⊢
  exact ⟨fun hr => hc.1 (h.1 hr), fun ho ht => hc.2 ho (h.2 ht)⟩

theorem okAt_un_mono {p op e r} (h : okAt p (un op e) = true) (hro : EdgeLe r e) :
    okAt p (un op r) = true := by
  cases p with
  | top | unOperand | binR => rfl
  | assertOperand => cases h
  | binL o =>
    simp only [okAt, Bool.and_eq_true] at h ⊢
    exact ⟨edge_ok (edgeLe_un op hro) h.1, h.2⟩

theorem okAt_bin_mono {p op l r l' r'} (h : okAt p (bin op l r) = true)
    (hro : EdgeLe r' r) : okAt p (bin op l' r') = true := by
  cases p with
  | top => rfl
  | unOperand | binR => exact h
  | assertOperand => cases h
  | binL o =>
    simp only [okAt, Bool.and_eq_true] at h ⊢
    exact ⟨edge_ok (edgeLe_bin op l l' hro) h.1, h.2⟩

theorem okAt_assert {p : Pos} {e r : Expr} (h : okAt p (assert e) = true) : okAt p (assert r) = true := by
  cases p <;> exact h

/-- the invariant carried through both formatting paths. The edge clause is only claimed at
operand positions: at a delimited position nothing follows the expression. -/
def Good (p : Pos) (e r : Expr) : Prop :=
  faithful r = true ∧ okAt p r = true ∧ sem r = sem e ∧ (p ≠ .top → EdgeLe r e)

theorem Good.refl {p : Pos} {e : Expr} (hf : faithful e = true) (hok : okAt p e = true) : Good p e e :=
  ⟨hf, hok, rfl, fun _ => .refl e⟩

theorem Good.faithful {p : Pos} {e r : Expr} (g : Good p e r) : faithful r = true := g.1
theorem Good.okAt {p : Pos} {e r : Expr} (g : Good p e r) : okAt p r = true := g.2.1
theorem Good.sem {p : Pos} {e r : Expr} (g : Good p e r) : sem r = sem e := g.2.2.1
theorem Good.edge {p : Pos} {e r : Expr} (g : Good p e r) (hp : p ≠ .top) : EdgeLe r e := g.2.2.2 hp

theorem Good.trans {p : Pos} {e r r' : Expr} (g : Good p e r) (g' : Good p r r') : Good p e r' :=
  ⟨g'.faithful, g'.okAt, g'.sem.trans g.sem, fun hp => (g'.edge hp).trans (g.edge hp)⟩

/-- L1-L3 together: a parenthesis that `ctx` lets go was not needed at a position `ctx` is used at -/
theorem good_drop {p ctx e} (hc : checkExcess e ctx = true ∧ ¬ keepParens ctx = true)
    (hd : dropOK ctx p = true) (hf : faithful e = true) : Good p (paren e) e :=
  ⟨hf, checkExcess_okAt hc.1 hc.2 hd, (checkExcess_sem hc.1).symm, fun hp =>
    have ⟨hro, het⟩ := checkExcess_closed hc.1 hc.2 hd hp
    ⟨fun h => hro.symm.trans h, fun h => het.symm.trans h⟩⟩

/-- the `- -` guard of the unary arms -/
def guardS (op : UnOp) (e' : Expr) : Expr :=
  if op = .minus ∧ needsMinusGuard e' then paren e' else e'

theorem isUnMinus_eq (e : Expr) : ParenRule.isUnMinus e = Prec.isUnMinus e := by
  cases e with
  | un op x => cases op <;> rfl
  | _ => rfl

theorem needsMinusGuard_of_isUnMinus (e : Expr) (h : Prec.isUnMinus e = true) : needsMinusGuard e = true := by
  cases e with
  | un op x => cases op <;> first | rfl | cases h
  | _ => cases h

theorem truncate_sem_of_needsGuard (r : Expr) (h : needsMinusGuard r = true) : truncate (sem r) = sem r := by
  cases r with
  | un op x => rfl
  | paren y => cases y <;> first | rfl | cases h
  | _ => cases h

theorem sem_guardS (op : UnOp) (e' : Expr) : sem (guardS op e') = sem e' := by
  unfold guardS
  split
  · rename_i h
    exact truncate_sem_of_needsGuard e' h.2
  · rfl

/-- The unary arms wrap the formatted operand `r` under a test `t`: `needsMinusGuard r` on the single-line path,
`isUnMinus r` on the hanging one. Enough that `t` holds of every `-…` and only of single values. -/
theorem good_guard {op r t} (ht : Prec.isUnMinus r = true → t = true)
    (hts : t = true → needsMinusGuard r = true) (hf : faithful r = true) (hok : okAt (.unOperand op) r = true) :
    Good (.unOperand op) r (if op = .minus ∧ t = true then paren r else r) ∧
    minusClash op (if op = .minus ∧ t = true then paren r else r) = false := by
  split
  · rename_i h
    exact ⟨⟨hf, okAt_paren _ r, truncate_sem_of_needsGuard r (hts h.2), fun _ => edgeLe_paren r r⟩, Bool.and_false _⟩
  · rename_i h
    refine ⟨.refl hf hok, Bool.eq_false_iff.2 fun hc => ?_⟩
    have ⟨h1, h2⟩ := (Bool.and_eq_true _ _).mp hc
    exact h ⟨eq_of_beq h1, ht h2⟩

theorem guardS_ok (op : UnOp) (e' : Expr) (hf : faithful e' = true) (hok : okAt (.unOperand op) e' = true) :
    okAt (.unOperand op) (guardS op e') = true ∧ minusClash op (guardS op e') = false ∧
    faithful (guardS op e') = true ∧ EdgeLe (guardS op e') e' :=
  have ⟨g, hc⟩ := good_guard (needsMinusGuard_of_isUnMinus e') id hf hok
  ⟨g.okAt, hc, g.faithful, g.edge nofun⟩

/-! node lemmas: `ih` is the caller's induction hypothesis with context and position put in -/

theorem good_paren {p : Pos} {e r : Expr} (g : Good .top e r) : Good p (paren e) (paren r) :=
  ⟨g.faithful, okAt_paren p r, congrArg truncate g.sem, fun _ => edgeLe_paren r _⟩

theorem good_un {p op e r t} (hf : faithful (un op e) = true)
    (hok : okAt p (un op e) = true) (ht : Prec.isUnMinus r = true → t = true)
    (hts : t = true → needsMinusGuard r = true)
    (ih : faithful e = true → okAt (.unOperand op) e = true → Good (.unOperand op) e r) :
    Good p (un op e) (un op (if op = .minus ∧ t = true then paren r else r)) :=
  have ⟨ho, _, hfe⟩ := faithful_un.1 hf
  have g := ih hfe ho
  have ⟨g', hc⟩ := good_guard ht hts g.faithful g.okAt
  have he := (g.trans g').edge nofun
  ⟨faithful_un.2 ⟨g'.okAt, hc, g'.faithful⟩, okAt_un_mono hok he, congrArg (Sem.un op) (g.trans g').sem,
    fun _ => edgeLe_un op he⟩

theorem good_bin {p op l r l' r'} (hf : faithful (bin op l r) = true)
    (hok : okAt p (bin op l r) = true)
    (ihl : faithful l = true → okAt (.binL op) l = true → Good (.binL op) l l')
    (ihr : faithful r = true → okAt (.binR op) r = true → Good (.binR op) r r') :
    Good p (bin op l r) (bin op l' r') :=
  have ⟨⟨hol, hor⟩, hfl, hfr⟩ := faithful_bin.1 hf
  have gl := ihl hfl hol
  have gr := ihr hfr hor
  have he := gr.edge nofun
  ⟨faithful_bin.2 ⟨⟨gl.okAt, gr.okAt⟩, gl.faithful, gr.faithful⟩, okAt_bin_mono hok he,
    (congr (congrArg (Sem.bin op) gl.sem) gr.sem :), fun _ => edgeLe_bin op l l' he⟩

theorem good_assert {p e r} (hf : faithful (assert e) = true) (hok : okAt p (assert e) = true)
    (ih : faithful e = true → okAt .assertOperand e = true → Good .assertOperand e r) :
    Good p (assert e) (assert r) :=
  have ⟨ho, hfe⟩ := faithful_assert.1 hf
  have g := ih hfe ho
  ⟨faithful_assert.2 ⟨g.okAt, g.faithful⟩, okAt_assert hok, congrArg Sem.assert g.sem, fun _ => ⟨id, id⟩⟩

theorem fmtS_paren (ctx : Ctx) (e : Expr) :
    fmtS repaired ctx (paren e) =
      if checkExcess e ctx ∧ ¬ keepParens ctx then fmtS repaired ctx e else paren (fmtS repaired .std e) := by
  have h : repaired.ctxThroughDrop = true := rfl
  simp only [fmtS, h, if_true]

theorem fmtS_un (ctx : Ctx) (op : UnOp) (e : Expr) :
    fmtS repaired ctx (un op e) = un op (guardS op (fmtS repaired .unOrBin e)) := by
  simp only [fmtS, guardS]
  split <;> rfl

theorem fmtS_good (e : Expr) : ∀ (ctx : Ctx) (p : Pos), dropOK ctx p = true → faithful e = true →
    okAt p e = true → Good p e (fmtS repaired ctx e) := by
  induction e with
  | atom | call | varargs | ifx => exact fun _ _ _ => .refl
  | paren e ih =>
    intro ctx p hd hf _
    rw [fmtS_paren]
    split
    · rename_i hc
      have g := good_drop hc hd hf
      exact g.trans (ih ctx p hd hf g.okAt)
    · exact good_paren (ih .std .top (dropOK_top _) hf rfl)
  | un op e ih =>
    intro ctx p _ hf hok
    rw [fmtS_un]
    exact good_un hf hok (needsMinusGuard_of_isUnMinus _) id (ih .unOrBin _ rfl)
  | bin op l r ihl ihr =>
    intro ctx p _ hf hok
    simp only [fmtS]
    exact good_bin hf hok (ihl _ _ (dropOK_lhsCtx op)) (ihr .unOrBin _ rfl)
  | assert e ih =>
    intro ctx p _ hf hok
    simp only [fmtS]
    exact good_assert hf hok (ih .tassert _ dropOK_tassert)

theorem fmtH_un (o : Oracle) (ctx : Ctx) (op : UnOp) (e : Expr) :
    fmtH repaired o ctx (un op e) =
      un op (if op = .minus ∧ Prec.isUnMinus (fmtH repaired o.l .unOrBin e) = true
             then paren (fmtH repaired o.l .unOrBin e) else fmtH repaired o.l .unOrBin e) := by
  have h : repaired.hangMinusGuard = true := rfl
  simp only [fmtH, h, true_and, isUnMinus_eq]
  split <;> rfl

theorem fmtH_bin (o : Oracle) (ctx : Ctx) (op : BinOp) (l r : Expr) :
    fmtH repaired o ctx (bin op l r) =
      bin op (hangBin repaired o.l (hctx op .unOrBin) l) (hangBin repaired o.r .unOrBin r) := by
  have h : repaired.hangLhsExp = true := rfl
  have h2 : repaired.hangRhsOperand = true := rfl
  simp only [fmtH, h, h2, true_and, hctx, if_true]

/-- which path formats each operand of a hung binary node: the side the operator hangs from always the hanging
one, the other side only if it holds comments -/
theorem hangBin_bin (o : Oracle) (ctx : Ctx) (op : BinOp) (l r : Expr) :
    hangBin repaired o ctx (bin op l r) =
      bin op (if (o.hang && !op.rassoc || o.cl) = true then hangBin repaired o.l (hctx op ctx) l else fmtS repaired (lhsCtx op) l)
             (if (o.hang && op.rassoc || o.cr) = true then hangBin repaired o.r ctx r else fmtS repaired .unOrBin r) := by
  have h : repaired.hangLhsExp = true := rfl
  simp only [hangBin, h, true_and, hctx]
  cases o.hang <;> cases op.rassoc <;> rfl

/-- `hangBin` descends into operands with the context it was given, so that must not be Standard -/
def HGood (e : Expr) : Prop :=
  ∀ (o : Oracle) (ctx : Ctx) (p : Pos), dropOK ctx p = true → faithful e = true → okAt p e = true →
    Good p e (fmtH repaired o ctx e)
def BGood (e : Expr) : Prop :=
  ∀ (o : Oracle) (ctx : Ctx) (p : Pos), ctx ≠ .std → dropOK ctx p = true → faithful e = true → okAt p e = true →
    Good p e (hangBin repaired o ctx e)

/-- outside binary nodes `hang_binop_expression` is `format_hanging_expression_` -/
theorem HGood.lift {e : Expr} (hb : ∀ o ctx, hangBin repaired o ctx e = fmtH repaired o ctx e) (main : HGood e) :
    HGood e ∧ BGood e :=
  ⟨main, fun o ctx p _ hd hf hok => hb o ctx ▸ main o ctx p hd hf hok⟩

theorem hang_good (e : Expr) : HGood e ∧ BGood e := by
  induction e with
  | atom | call | varargs | ifx =>
    refine HGood.lift (fun _ _ => rfl) fun o ctx p _ hf hok => ?_
    simp only [fmtH, fmtS]
    exact .refl hf hok
  | paren e ih =>
    refine HGood.lift (fun _ _ => rfl) fun o ctx p hd hf hok => ?_
    simp only [fmtH]
    split
    · rename_i hc
      have g := good_drop hc hd hf
      exact g.trans (ih.1 o.l ctx p hd hf g.okAt)
    · split
      · exact good_paren (fmtS_good e .std .top (dropOK_top _) hf rfl)
      · exact good_paren (ih.1 o.l .std .top (dropOK_top _) hf rfl)
  | un op e ih =>
    refine HGood.lift (fun _ _ => rfl) fun o ctx p _ hf hok => ?_
    rw [fmtH_un]
    exact good_un hf hok id (needsMinusGuard_of_isUnMinus _) (ih.1 o.l .unOrBin _ rfl)
  | assert e ih =>
    refine HGood.lift (fun _ _ => rfl) fun o ctx p _ hf hok => ?_
    simp only [fmtH]
    exact good_assert hf hok (ih.1 o.l .tassert _ dropOK_tassert)
  | bin op l r ihl ihr =>
    constructor
    · intro o ctx p _ hf hok
      rw [fmtH_bin]
      exact good_bin hf hok (ihl.2 o.l _ _ (hctx_ne_std op _ (by decide)) (dropOK_hctx op _ (by decide)))
        (ihr.2 o.r .unOrBin _ (by decide) rfl)
    · intro o ctx p hs _ hf hok
      rw [hangBin_bin]
      refine good_bin hf hok ?_ ?_
      · split
        · exact ihl.2 o.l _ _ (hctx_ne_std op ctx hs) (dropOK_hctx op ctx hs)
        · exact fmtS_good l _ _ (dropOK_lhsCtx op)
      · split
        · exact ihr.2 o.r ctx _ hs (decide_eq_true hs)
        · exact fmtS_good r _ _ rfl

theorem fmtH_good (o : Oracle) (ctx : Ctx) (p : Pos) (e : Expr) (hd : dropOK ctx p = true)
    (hf : faithful e = true) (hok : okAt p e = true) : Good p e (fmtH repaired o ctx e) :=
  (hang_good e).1 o ctx p hd hf hok

end StyluaModel.ParenLemmas
