/-
C09 — Range formatting touches only statements inside the range.
-/
import StyluaModel.Lemmas.Block
import StyluaModel.Model.Eof

namespace StyluaModel.C09
open StyluaModel.Block StyluaModel.BlockLemmas

/-- **which statements are formatted**: a statement without directives, in a block without
an open ignore region, is formatted iff it lies wholly inside the range -/
theorem C09_decide (r : Option Range) (s : Stmt) (h : s.lines.contains .ignore = false) :
    (decide1 false r s = .normal ↔ inRange r s = true) ∧
    (decide1 false r s = .notInRange ↔ inRange r s = false) := by
  unfold decide1
  simp only [Bool.false_eq_true, if_false, h]
  cases inRange r s <;> simp

/-- `inRange` is the documented test: start and end byte both within the bounds given -/
theorem C09_inRange (a b : Nat) (s : Stmt) :
    inRange (some { start := some a, stop := some b }) s = true ↔ a ≤ s.start ∧ s.stop ≤ b := by
  simp [inRange]

/-- **statements not wholly inside keep their semicolon and blank lines** (their tokens are
returned untouched by `format_stmt`; only nested blocks are visited) -/
theorem C09_outside_verbatim (r : Option Range) (b : List Stmt) :
    ∀ p ∈ List.zip b (fmtBlock repaired r b),
      p.2.decision = .notInRange → p.2.semi = p.1.semi ∧ p.2.stripped = false := by
  intro p hp h
  exact unformatted_kept r false true b p hp (by rw [h]; simp)

/-- **statements wholly inside come out exactly as when the whole file is formatted**
(same semicolon decision, same blank-line stripping) -/
theorem C09_inside_same (r : Range) (b : List Stmt) :
    ∀ p ∈ List.zip (fmtBlock repaired (some r) b) (fmtBlock repaired none b),
      p.1.decision = .normal → p.1 = p.2 :=
  inside_same r false true b

/-- order and number of statements never change -/
theorem C09_order (r : Option Range) (b : List Stmt) :
    (fmtBlock repaired r b).map (·.id) = b.map (·.id) :=
  ids_preserved repaired r false true b

/-- the code before the repair: D4 (semicolon of an out-of-range statement dropped) and D19
(a formatted first statement keeps leading blank lines only under a range) -/
theorem C09_pinned_violates :
    let s1 : Stmt := { id := 0, kind := .localAssignment, startsParen := false, semi := true, lines := [], start := 0, stop := 16 }
    let s2 : Stmt := { id := 1, kind := .localAssignment, startsParen := false, semi := false, lines := [], start := 18, stop := 30 }
    let r : Range := { start := some 17, stop := none }
    (fmtBlock pinned (some r) [s1, s2]).map (fun o => (o.decision, o.semi)) = [(.notInRange, false), (.normal, false)] ∧
    (fmtBlock pinned (some r) [s2]).map (·.stripped) = [false] ∧
    (fmtBlock pinned none [s2]).map (·.stripped) = [true] ∧
    (fmtBlock repaired (some r) [s2]).map (·.stripped) = [true] := by
  decide +kernel

/-- **blank lines above a statement**: only the first statement of a block has its leading blank lines
removed, and only when it is itself formatted; every later statement - in particular the first
statement *of the range* - keeps (one of) them, as whole-file formatting would -/
theorem C09_only_first_stripped (r : Option Range) (d : Bool) (ss : List Stmt) :
    ∀ o ∈ fmtStmts repaired r d false ss, o.stripped = false := by
  induction ss generalizing d with
  | nil => intro o ho; cases ho
  | cons s rest ih =>
    simp only [fmtStmts, List.forall_mem_cons]
    exact ⟨rfl, ih _⟩

theorem C09_first_stripped_iff (r : Option Range) (s : Stmt) (rest : List Stmt) :
    ((fmtBlock repaired r (s :: rest)).head?.map (·.stripped)) = some (decide (decide1 (toggle false s.lines) r s = .normal)) := by
  rfl

/-- **the end of the file outside the range is left alone**: blank lines, indentation and comments
after the last statement come back untouched -/
theorem C09_eof_untouched (eol : List Char) (lead : List Trivia.Triv) : Eof.fmtEof eol false lead = none := rfl

example :
    let s1 : Stmt := { id := 0, kind := .call, startsParen := false, semi := true, lines := [], start := 0, stop := 10 }
    let s2 : Stmt := { id := 1, kind := .call, startsParen := false, semi := true, lines := [], start := 12, stop := 20 }
    (fmtBlock repaired (some { start := some 11, stop := some 25 }) [s1, s2]).map (fun o => (o.decision, o.semi))
      = [(.notInRange, true), (.normal, false)] := by decide +kernel

end StyluaModel.C09
