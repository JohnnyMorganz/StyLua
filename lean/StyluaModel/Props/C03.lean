/-
C03 — No comment is lost, duplicated or altered (the mechanisms that have a model).
Property theorems and non-vacuity examples only; the rewriting rules for `commentsOut` they use are in Lemmas/Comments.lean,
line safety in Lemmas/LineSafe.lean, the text of a comment in Lemmas/Trivia.lean.
-/
import StyluaModel.Lemmas.Trivia
import StyluaModel.Lemmas.SortReq
import StyluaModel.Lemmas.LineSafe

namespace StyluaModel.C03
open StyluaModel.Trivia StyluaModel.TriviaLemmas StyluaModel.StrLit

/-- **load_token_trivia** (every token's leading and trailing trivia goes through it): every
comment of the input list appears exactly once, in the same order, with the same kind and
long-bracket level, and its text only normalised by `fmtText`; no comment is created. -/
theorem C03_load (eol : List Char) (p : Pos) (t : List Triv) :
    commentsOut (load eol p t) = (commentsIn t).map (fun c => (c.1, fmtText eol c.1 c.2)) :=
  commentsOut_load eol p t

/-- **line comments and the shebang**: only trailing whitespace may change -/
theorem C03_text_line (eol : List Char) (t : List Char) :
    trimEnd (fmtText eol .line t) = trimEnd t ∧ trimEnd (fmtText eol .shebang t) = trimEnd t :=
  ⟨trimEnd_idem t, trimEnd_idem t⟩

/-- **block comments**: only the newline convention may change — for text whose carriage
returns all belong to CRLF pairs, normalising CRLF to LF gives the same text before and after,
for both configurable line endings -/
theorem C03_text_block (lvl : Nat) (t : List Char) (h : noLoneCR t = true) :
    crlfToLf (fmtText ['\n'] (.block lvl) t) = crlfToLf t ∧
    crlfToLf (fmtText ['\r', '\n'] (.block lvl) t) = crlfToLf t :=
  have hn := noCR_crlfToLf t h
  ⟨(congrArg crlfToLf (lfToEol_lf _)).trans (crlfToLf_noCR _ hn), crlf_roundtrip _ hn⟩

/-- **parenthesis removal carries the comments it looks at**: what it re-attaches is a
sub-multiset of the comments around the parentheses, in order; and when nothing sits directly
after `(` or directly before `)`, nothing is lost -/
theorem C03_paren_partial (s : ParenSlots) :
    (dropParens s).Sublist (allComments s) ∧
    (s.openTrail = [] → s.closeLead = [] → dropParens s = allComments s) := by
  constructor
  · simp only [dropParens, allComments, List.append_assoc]
    apply List.Sublist.append (List.Sublist.refl _)
    apply List.Sublist.trans _ (List.sublist_append_right s.openTrail _)
    apply List.Sublist.append (List.Sublist.refl _)
    exact List.sublist_append_right _ _
  · intro h1 h2
    simp [dropParens, allComments, h1, h2]

/-- the full statement is false of the code: a comment directly after `(` is dropped (D5-D7,
recorded as known findings of the comment-slot enumeration) -/
theorem C03_paren_loses_inner_slots :
    let s : ParenSlots := { openLead := [], openTrail := [(.block 0, ['c'])], closeLead := [], closeTrail := [], inner := [] }
    dropParens s = [] ∧ allComments s = [(.block 0, ['c'])] := by decide +kernel

/-- require sorting keeps every statement (and with it its trivia) -/
theorem C03_sort_perm (v : SortReq.Variant) (enabled : Bool) (items : List SortReq.Item) :
    (SortReq.sortRequires v enabled items).Perm items :=
  SortLemmas.sortRequires_perm v enabled items

/-- **comments at the end of the file** all survive, in order, each with its formatted text -/
theorem C03_eof_comments (eol : List Char) (lead : List Triv) (o : List Out)
    (h : Eof.fmtEof eol true lead = some o) :
    commentsOut o = (commentsIn lead).map (fun c => (c.1, fmtText eol c.1 c.2)) := by
  simp only [Eof.fmtEof, Bool.not_true, Bool.false_eq_true, if_false, Option.some.injEq] at h
  rw [← C03_load eol .leading lead, ← h]
  split
  · rename_i hall
    exact (commentsOut_of_allWs _ hall).symm
  · rw [commentsOut_append, commentsOut_popWs]; exact List.append_nil _

/-- **the leading trivia of every formatted token is line-safe**: load_token_trivia puts each leading comment on a
line of its own, so no line comment in front of a token can swallow that token - for trivia lists of any length. (The
known swallowing cases, D23, all come from *trailing* comments that a later step joins with what follows.) -/
theorem C03_leading_line_safe (eol : List Char) (t : List Triv) :
    Semi.lineSafe (load eol .leading t) = true :=
  LineSafe.load_leading_safe eol t

/-- ... and so is the leading trivia of a block's closing token after format_end_token has removed the blank lines:
`end` / `}` / `)` is never swallowed by a comment in front of it -/
theorem C03_end_token_line_safe (eol : List Char) (lead : List Triv) :
    Semi.lineSafe (EndToken.endLeading eol lead) = true := by
  -- read from the back (`srAux`), where the scan of format_end_token runs
  rw [EndToken.endLeading, LineSafe.sr_rev]
  apply LineSafe.scan_sr
  rw [← LineSafe.sr_rev, List.reverse_reverse]
  exact LineSafe.load_leading_safe eol lead

/-- the comments moved in front of a table field's key cannot swallow the key (each gets a line of its own), and with
no comment *behind* a hung binary operator its rebuilt leading trivia cannot swallow the operator - the positive
counterparts of the swallowing witnesses below -/
theorem C03_moved_comments_line_safe (eol : List Char) (m s : Bool) (kl kt el et a b c : List Triv)
    (hb : Semi.rawComments b = []) :
    Semi.lineSafe (FieldKey.keyLeading eol m s kl kt el et) = true ∧ Semi.lineSafe (HangOp.hangBinop a b c).1 = true := by
  constructor
  · exact LineSafe.lineSafe_append _ _
      (LineSafe.lineSafe_append _ _ (LineSafe.load_leading_safe eol kl) (LineSafe.lines_safe _)) (by cases m <;> rfl)
  · -- ownLine a ++ (ownLine c ++ [newline, indent]): each part is followed by something that starts with a line ending
    simp only [HangOp.hangBinop, hb, HangOp.sameLine, List.flatMap_nil, List.append_nil, List.append_assoc]
    exact LineSafe.ownLine_safe _ _ (LineSafe.startsNl_ownLine _ _ rfl) (LineSafe.ownLine_safe _ _ rfl rfl)

open StyluaModel.Semi in
/-- **format_block, a semicolon that stays or is added**: the comments of its own leading and trailing trivia (through
load_token_trivia, so with normalised text) and those of the statement's trailing trivia, which is moved
behind it, all appear once and in order - for trivia lists of any length -/
theorem C03_semi_required (eol : List Char) (written : Bool) (T : List Out) (sl st : List Triv) :
    commentsOut (outs (fmtSemi eol true written T sl st)) =
      (if written then SemiLemmas.norm eol (commentsIn sl) ++ SemiLemmas.norm eol (commentsIn st) else []) ++ commentsOut T := by
  cases written <;>
    simp only [fmtSemi, if_true, Bool.false_eq_true, if_false, outs_append, outs_map_some, outs_none, commentsOut_append,
      commentsOut_load, List.append_nil, List.nil_append]

open StyluaModel.Semi in
/-- **a semicolon that is dropped**: given that the statement's trailing trivia ends with the newline the
statement formatters put there, every comment of the statement and of the semicolon survives, once, in order,
with its text untouched -/
theorem C03_semi_removed (eol : List Char) (T' : List Out) (sl st : List Triv) :
    commentsOut (outs (fmtSemi eol false true (T' ++ [Out.newline]) sl st)) =
      commentsOut T' ++ commentsIn sl ++ commentsIn st := by
  simp only [fmtSemi, Bool.false_eq_true, if_false, if_true, dropLast_snoc, outs_map_some, commentsOut_append,
    commentsOut_spaced, commentsOut_raw, commentsIn_append, commentsOut, List.append_nil, List.append_assoc]

open StyluaModel.Semi in
/-- the hypothesis is needed: the code drops the *last element* of the trailing trivia, whatever it is -/
theorem C03_semi_removed_needs_newline :
    commentsOut (outs (fmtSemi ['\n'] false true [Out.space, Out.comment (.block 0) ['a']] [] [])) = [] := by decide +kernel

open StyluaModel.Semi in
/-- ... and although no comment token is lost, the comments of a dropped semicolon are appended *behind* a
trailing line comment of the statement, on the same line: in the printed text they become part of that comment
(`local x = 1 -- a⏎; --[[b]]` comes out as `local x = 1 -- a --[[b]]`; reproduced on the binary, one of the
D23 family of known findings) -/
theorem C03_semi_swallow_witness :
    let out := outs (fmtSemi ['\n'] false true [Out.space, Out.comment .line ['a'], Out.newline] []
      [.ws false, .comment (.block 0) ['b'], .ws true])
    out = [Out.space, Out.comment .line ['a'], Out.space, Out.comment (.block 0) ['b'], Out.newline] ∧
    lineSafe out = false := by decide +kernel

open StyluaModel.HangOp in
/-- **hang_binop**: the comments in front of the operator, behind it, and in front of its right operand all end
up in the operator's new leading trivia - each once, in that order, text untouched; the new trailing trivia holds
none - for trivia lists of any length -/
theorem C03_hang_binop (opLead opTrail rhsLead : List Triv) :
    commentsOut (hangBinop opLead opTrail rhsLead).1 = commentsIn opLead ++ commentsIn opTrail ++ commentsIn rhsLead ∧
    commentsOut (hangBinop opLead opTrail rhsLead).2 = [] := by
  simp only [hangBinop, commentsOut_append, commentsOut_ownLine, commentsOut_sameLine, commentsOut_raw,
    commentsOut, List.append_nil, and_self]

open StyluaModel.HangOp StyluaModel.Semi in
/-- ... but the operator's trailing comments are appended on the line of its last leading comment: behind a
*line* comment they become part of it in the printed text (`a⏎-- x⏎+ -- y⏎b` comes out as `a⏎-- x -- y⏎+ b`;
reproduced on the binary; D23 family) -/
theorem C03_hang_binop_fuses_witness :
    let lead := (hangBinop [.comment .line ['x'], .ws true] [.ws false, .comment .line ['y']] []).1
    lead = [Out.newline, Out.indent, Out.comment .line ['x'], Out.space, Out.comment .line ['y'], Out.newline, Out.indent] ∧
    lineSafe lead = false := by decide +kernel

open StyluaModel.FieldKey in
/-- **handle_field_key_equals_comments, bracketed key** (`["k"] = v`): the comments in front of the key, behind it,
and on either side of `=` all end up in front of the key, once and in that order (those of the key with the text
format_token gives them, those of `=` untouched) - for trivia lists of any length; `=` itself is replaced by a
fresh token without trivia -/
theorem C03_field_key (eol : List Char) (multiline : Bool) (kl kt el et : List Triv) :
    commentsOut (keyLeading eol multiline false kl kt el et) =
      SemiLemmas.norm eol (commentsIn kl) ++ SemiLemmas.norm eol (commentsIn kt) ++ commentsIn el ++ commentsIn et := by
  simpa only [Bool.false_eq_true, if_false] using commentsOut_keyLeading eol multiline false kl kt el et

open StyluaModel.FieldKey in
/-- **... name key** (`k = v`), the statement that holds of the code: everything except the comments *behind the
key* is carried over -/
theorem C03_field_key_name_partial (eol : List Char) (multiline : Bool) (kl kt el et : List Triv) :
    commentsOut (keyLeading eol multiline true kl kt el et) =
      SemiLemmas.norm eol (commentsIn kl) ++ commentsIn el ++ commentsIn et := by
  simpa only [if_true, List.append_nil] using commentsOut_keyLeading eol multiline true kl kt el et

open StyluaModel.FieldKey in
/-- the full statement is false for a name key: `{ k --[[c]] = 1 }` loses `c` (D29, reproduced on the binary; the
mechanism - `Node::surrounding_trivia` on a one-token node - was found when the `fieldkey` correspondence
disagreed with the first version of this model) -/
theorem C03_field_key_name_loses_key_trailing :
    commentsOut (keyLeading ['\n'] true true [] [.ws false, .comment (.block 0) ['c'], .ws false] [] []) = [] := by
  decide +kernel

/-- **format_end_token** (`end`, `until`, a closing brace or parenthesis on its own line): every comment in front of
the closing token survives the removal of blank lines - once, in order, with the text format_token gives it - for
trivia lists of any length -/
theorem C03_end_token (eol : List Char) (lead : List Triv) :
    commentsOut (EndToken.endLeading eol lead) = (commentsIn lead).map (fun c => (c.1, fmtText eol c.1 c.2)) := by
  simp only [EndToken.endLeading, commentsOut_reverse, commentsOut_scan, List.reverse_reverse]
  exact commentsOut_load eol .leading lead

open StyluaModel.Punct StyluaModel.Semi in
/-- **format_punctuated_multiline**: the comments in front of the comma stay in front of it, those behind the value
move behind the comma, in front of the comma's own trailing comments - each once; and the comments in front of a
later value get a line each (prepend_newline_indent) - for trivia lists of any length -/
theorem C03_punct_comma (eol : List Char) (vTrail vLead : List Out) (pl pt : List Triv) :
    commentsOut (outs (afterValue eol vTrail pl pt)) =
      SemiLemmas.norm eol (commentsIn pl) ++ commentsOut vTrail ++ SemiLemmas.norm eol (commentsIn pt) ∧
    commentsOut (prependNewlineIndent vLead) = commentsOut vLead := by
  simp only [afterValue, prependNewlineIndent, outs_append, outs_map_some, outs_none, commentsOut_append,
    commentsOut_load, commentsOut_sameLine, commentsOut_ownLine, commentsOut_only, commentsOut, List.append_nil,
    List.nil_append, List.append_assoc, and_self]

/-- **format_function_args, parentheses added** around a single string argument (`f "x"` → `f("x")`): the comments in
front of and behind the argument are all kept, those behind it moved behind the new `)` -/
theorem C03_sugar_add (eol : List Char) (al at' : List Triv) :
    commentsOut (Sugar.addParens eol al at').1 ++ commentsOut (Sugar.addParens eol al at').2 =
      SemiLemmas.norm eol (commentsIn al) ++ SemiLemmas.norm eol (commentsIn at') := by
  simp only [Sugar.addParens, commentsOut_sameLine, commentsOut_only, commentsOut_load]

/-- **parentheses dropped** (`f("x")` → `f "x"`), the statement that holds of the code: the comments of the argument
itself and those behind `)` are kept ... -/
theorem C03_sugar_drop_partial (eol : List Char) (ol ot al at' cl ct : List Triv) :
    commentsOut (Sugar.dropParens eol ol ot al at' cl ct).1 ++ commentsOut (Sugar.dropParens eol ol ot al at' cl ct).2 =
      SemiLemmas.norm eol (commentsIn al) ++ SemiLemmas.norm eol (commentsIn at') ++ SemiLemmas.norm eol (commentsIn ct) := by
  simp only [Sugar.dropParens, commentsOut_append, commentsOut_load, commentsIn_append, SemiLemmas.norm, List.map_append,
    commentsOut, List.append_nil, List.append_assoc]

/-- ... and those in front of `(`, behind `(` and in front of `)` are not (`f( --[[c]] "x")` under
call_parentheses = None loses `c`: D5, reproduced on the binary, listed among the generated findings) -/
theorem C03_sugar_drop_loses_paren_comments :
    let c : List Triv := [.comment (.block 0) ['c']]
    commentsOut (Sugar.dropParens ['\n'] c c [] [] c []).1 ++ commentsOut (Sugar.dropParens ['\n'] c c [] [] c []).2 = [] := by
  decide +kernel

open StyluaModel.TableField in
/-- **the comments behind a field's value** in a multi-line table (format_field / format_multiline_table): block
comments stay behind the value, the separator keeps its own comments, line comments are moved behind the separator -
every comment of the value and of the separator appears once (in that order), whether the separator was written or
is added - for trivia lists of any length -/
theorem C03_table_field (eol : List Char) (vt : List Triv) (sep : Option (List Triv × List Triv)) :
    commentsOut (Semi.outs (afterField eol vt sep)) =
      TableFieldLemmas.blocksOf vt ++ (match sep with
        | some (pl, pt) => SemiLemmas.norm eol (commentsIn pl) ++ SemiLemmas.norm eol (commentsIn pt)
        | none => []) ++ TableFieldLemmas.linesOf eol vt := by
  cases sep <;>
    simp only [afterField, outs_append, outs_map_some, outs_none, commentsOut_append, commentsOut_sameLine,
      rawBlocks_comments, movedLines_comments, commentsOut_load, commentsOut, List.append_nil, List.nil_append,
      List.append_assoc]

open StyluaModel.CallArg in
/-- **the comments behind an argument** of a multi-line argument list (format_contained_punctuated_multiline): block
comments stay behind the argument, the comma's trailing and (moved behind it) leading comments follow the comma, then
the argument's line comments - every comment once, for lists of any length, with or without a comma (last argument) -/
theorem C03_call_arg (eol : List Char) (aTrail : List Out) (sep : Option (List Triv × List Triv)) :
    commentsOut (Semi.outs (afterArg eol aTrail sep)) =
      (commentsOut aTrail).filter CallArgLemmas.isBlockC ++ (match sep with
        | some (pl, pt) => SemiLemmas.norm eol (commentsIn pt) ++ SemiLemmas.norm eol (commentsIn pl)
        | none => []) ++ (commentsOut aTrail).filter CallArgLemmas.isLineC := by
  cases sep <;>
    simp only [afterArg, outs_append, outs_map_some, outs_none, commentsOut_append, commentsOut_sameLine,
      blocksOut_comments, linesOut_comments, commentsOut_load, commentsOut_ownLine, commentsOut_only, commentsOut,
      List.append_nil, List.nil_append, List.append_assoc]

example : commentsOut (load ['\n'] .leading
    [.ws true, .ws true, .comment .line "a  ".toList, .ws true, .comment (.block 1) "b\r\nc".toList, .ws true])
    = [(.line, ['a']), (.block 1, "b\nc".toList)] := by decide +kernel
example : noLoneCR "x\r\ny\nz".toList = true := by decide +kernel

end StyluaModel.C03
