/-
C19 — Results do not depend on thread count or scheduling (the exit-status protocol).
`Generated/ExitOps.lean` is re-extracted from src/cli/main.rs on every run: the first theorem
fails as soon as the code touches EXIT_CODE with anything but one atomic fetch_max in the diff
handler and one store in the logger.
-/
import StyluaModel.Generated.ExitOps

namespace StyluaModel.C19
open StyluaModel.Sched StyluaModel.Generated

/-- **what the code does to EXIT_CODE** (translation tie): the diff handler is a single atomic
`fetch_max(1)`, the logger a single `store(2)` (as is the JSON branch that reports a parse error
without the logger), the end a `load`, and nothing else touches it -/
theorem C19_ops :
    diffHandlerOps = [.fetchMax 1] ∧ loggerOps = [.store 2] ∧ jsonParseErrorOps = [.store 2] ∧
    finalOps = [.load] ∧ totalOps = 4 := by
  decide +kernel

/-- the effects, in the order in which they take effect: since every handler / logger
invocation is one atomic operation, a schedule is just an ordering of these operations -/
def runOps (cell : Int) (ops : List Op) : Int := ops.foldl (fun c op => (stepOp c 0 op).1) cell

theorem runOps_eq (ops : List Op) (h : ∀ op ∈ ops, op = .fetchMax 1 ∨ op = .store 2) (c : Int) :
    runOps c ops = if Op.store 2 ∈ ops then 2 else if Op.fetchMax 1 ∈ ops then max c 1 else c := by
  induction ops generalizing c with
  | nil => rfl
  | cons op rest ih =>
    rw [show runOps c (op :: rest) = runOps (stepOp c 0 op).1 rest from rfl,
      ih fun o ho => h o (List.mem_cons_of_mem _ ho)]
    rcases h op List.mem_cons_self with rfl | rfl
    · simp [stepOp]
    · simp [stepOp, show max (2 : Int) 1 = 2 from rfl]

/-- **the exit status is the same for every schedule**: whatever the order in which `n` diff
reports and `m` error reports take effect, the final status is 2 if m > 0, else 1 if n > 0,
else 0 — in particular an error is never masked by a diff -/
theorem C19_exit_any_schedule (n m : Nat) (order : List Op)
    (hperm : order.Perm (List.replicate n (.fetchMax 1) ++ List.replicate m (.store 2))) :
    runOps 0 order = spec m n := by
  have hmem : ∀ op ∈ order, op = .fetchMax 1 ∨ op = .store 2 := fun op hop =>
    (List.mem_append.mp (hperm.mem_iff.mp hop)).imp List.eq_of_mem_replicate List.eq_of_mem_replicate
  rw [runOps_eq order hmem]
  simp [hperm.mem_iff, spec, Nat.pos_iff_ne_zero, show max (0 : Int) 1 = 1 from rfl]

/-- the code before the repair (load, then a conditional store) masks an error that is
recorded between the two: the three-step schedule handler.load, logger.store, handler.store
ends with 1 although an error was reported (D8; replayed on the binary through the schedule
hook) -/
theorem C19_pinned_violates :
    exec 0 [{ ops := [.load, .storeIfLoaded .ne 2 1] }, { ops := [.store 2] }] [0, 1, 0] = 1 ∧
    spec 1 1 = 2 ∧
    exec 0 [{ ops := [.fetchMax 1] }, { ops := [.store 2] }] [0, 1] = 2 ∧
    exec 0 [{ ops := [.fetchMax 1] }, { ops := [.store 2] }] [1, 0] = 2 := by decide +kernel

example : runOps 0 [.fetchMax 1, .store 2, .fetchMax 1] = 2 ∧ runOps 0 [.fetchMax 1, .fetchMax 1] = 1 := by decide +kernel

end StyluaModel.C19
