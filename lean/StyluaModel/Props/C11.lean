/-
C11 — quote_style, call_parentheses and space_after_function_names are honoured.
Property theorems (decision logic stated outright) and non-vacuity examples only.
-/
import StyluaModel.Model.CallArgs
import StyluaModel.Model.StrLit
import StyluaModel.Generated.Decisions

namespace StyluaModel.C11
open StyluaModel.CallArgs StyluaModel.StrLit

/-- ForceDouble / ForceSingle: every quoted string uses that quote -/
theorem C11_force (b : List Char) :
    (rewrite .forceDouble b).1 = .double ∧ (rewrite .forceSingle b).1 = .single := ⟨rfl, rfl⟩

/-- AutoPrefer*: the preferred quote is used unless the other needs strictly fewer escapes
(`countC q b` = number of `q` characters of the literal = escapes needed when delimiting with `q`) -/
theorem C11_auto (b : List Char) :
    ((rewrite .autoPreferDouble b).1 = .single ↔ countC '\'' b < countC '"' b) ∧
    ((rewrite .autoPreferSingle b).1 = .double ↔ countC '"' b < countC '\'' b) := by
  simp only [rewrite, quoteToUse, beq_iff_eq]
  rcases Nat.lt_trichotomy (countC '\'' b) (countC '"' b) with h | h | h
  · simp only [Nat.ne_of_lt h, Nat.lt_asymm h, if_false, h, reduceCtorEq, and_self]
  · simp only [h, if_true, Nat.lt_irrefl, reduceCtorEq, and_self]
  · simp only [Nat.ne_of_gt h, Nat.lt_asymm h, gt_iff_lt, if_false, h, if_true, reduceCtorEq, and_self]

/-- Always: no call is written without parentheses -/
theorem C11_call_always (obscure : Bool) (f : Form) : callForm .always obscure f = .parens := by
  cases f <;> rfl

/-- Input: each call keeps the form it had -/
theorem C11_call_input (obscure : Bool) (n : Nat) (k : ArgKind) :
    callForm .input obscure (.parens n k) = .parens ∧
    callForm .input obscure .stringSugar = .sugar ∧ callForm .input obscure .tableSugar = .sugar :=
  ⟨rfl, rfl, rfl⟩

/-- None / NoSingleString / NoSingleTable: the corresponding single-argument calls have no
parentheses unless an index or method call follows — whichever way they were written -/
theorem C11_call_omit (m : Mode) (hm : m ≠ .input) :
    (omitString m = true →
      callForm m false (.parens 1 .string) = .sugar ∧ callForm m false .stringSugar = .sugar ∧
      callForm m true (.parens 1 .string) = .parens ∧ callForm m true .stringSugar = .parens) ∧
    (omitTable m = true →
      callForm m false (.parens 1 .table) = .sugar ∧ callForm m false .tableSugar = .sugar ∧
      callForm m true (.parens 1 .table) = .parens ∧ callForm m true .tableSugar = .parens) ∧
    (omitString m = false → ∀ o, callForm m o (.parens 1 .string) = .parens ∧ callForm m o .stringSugar = .parens) ∧
    (omitTable m = false → ∀ o, callForm m o (.parens 1 .table) = .parens ∧ callForm m o .tableSugar = .parens) := by
  revert hm
  cases m <;> decide +kernel

/-- anything that is not a single direct string / table argument always has parentheses -/
theorem C11_call_other (m : Mode) (o : Bool) (n : Nat) (k : ArgKind) (h : n ≠ 1 ∨ k = .other) :
    callForm m o (.parens n k) = .parens := by
  rcases h with h | rfl
  · exact if_neg fun hc => h hc.2.2.1
  · exact ite_self _

/-- a space separates a function name from `(` exactly in the cases the option names -/
theorem C11_space :
    (callSpace .never, defSpace .never) = (0, 0) ∧ (callSpace .definitions, defSpace .definitions) = (0, 1) ∧
    (callSpace .calls, defSpace .calls) = (1, 0) ∧ (callSpace .always, defSpace .always) = (1, 1) := by decide

/-- name of a mode in the source (`CallParenType`) -/
def modeName : Mode → String
  | .always => "Always"
  | .noSingleString => "NoSingleString"
  | .noSingleTable => "NoSingleTable"
  | .none => "None"
  | .input => "Input"

/-- **the model's omission tables are the source's**: `should_omit_string_parens` /
`should_omit_table_parens` (context.rs), as the translator reads them on every run, answer true for
exactly the modes for which the model does -/
theorem C11_omit_modes (m : Mode) :
    omitString m = Generated.omitStringModes.contains (modeName m) ∧
    omitTable m = Generated.omitTableModes.contains (modeName m) := by
  cases m <;> decide +kernel

example : (rewrite .autoPreferDouble "it's \"x\" \"y\"".toList).1 = .single := by decide +kernel
example : callForm .none true (.parens 1 .string) = .parens ∧ callForm .none false (.parens 1 .string) = .sugar := by decide

end StyluaModel.C11
