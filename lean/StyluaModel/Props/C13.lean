/-
C13 — `--check` never writes and its exit status tells the truth.
C14 — A failing file is left untouched and does not stop the others.
The decision logic of the run model, lifted to every completion order through `C19.runOps_eq`.
-/
import StyluaModel.Model.Run
import StyluaModel.Props.C19

namespace StyluaModel.C13
open StyluaModel.Run StyluaModel.Sched

theorem worker_written (m : Mode) (o : Outcome) : (worker m o).1 = decide (m = .write ∧ o = .differs) := by
  cases m <;> cases o <;> rfl
theorem worker_diff (m : Mode) (o : Outcome) : (worker m o).2.1 = decide (m = .check ∧ o = .differs) := by
  cases m <;> cases o <;> rfl
theorem worker_op (m : Mode) (o : Outcome) (op : Op) : (worker m o).2.2 = some op ↔
    op = .store 2 ∧ isError o = true ∨ op = .fetchMax 1 ∧ m = .check ∧ o = .differs := by
  cases o with
  | differs => cases m <;> simp [worker, isError, eq_comm]
  | _ => simp [worker, isError, eq_comm]

/-- **check mode writes nothing** -/
theorem C13_no_writes (files order : List File) : (run .check files order).written = [] := by
  simp [run, worker_written]

/-- **a diff is printed for precisely the files that differ** -/
theorem C13_diff_iff (files order : List File) :
    (run .check files order).diffs = (files.filter fun f => f.outcome = .differs).map (·.id) := by
  simp [run, worker_diff]

/-- **the exit status tells the truth, for every completion order**: 2 iff some file failed
(unreadable, unparseable, verification, missing path), else 1 iff some file differs (check
mode), else 0 -/
theorem C13_exit (m : Mode) (files order : List File) :
    (run m files order).exit =
      if order.any (fun f => isError f.outcome) then 2
      else if m = .check ∧ order.any (fun f => decide (f.outcome = .differs)) = true then 1 else 0 := by
  have hshape : ∀ op ∈ order.filterMap (fun f => (worker m f.outcome).2.2), op = .fetchMax 1 ∨ op = .store 2 :=
    fun op hop => let ⟨f, _, h⟩ := List.mem_filterMap.mp hop; ((worker_op ..).mp h).symm.imp And.left And.left
  rw [show (run m files order).exit = C19.runOps 0 _ from rfl, C19.runOps_eq _ hshape]
  simp only [List.mem_filterMap, worker_op, List.any_eq_true, decide_eq_true_eq, and_left_comm,
    exists_and_left, reduceCtorEq, false_and, true_and, or_false, false_or, show max (0 : Int) 1 = 1 from rfl]

/-- **write mode: exactly the files that differ are replaced** (by their complete formatted
text: `fs::write(path, formatted_contents)`), so a failing file keeps its bytes, every other
selected file is still processed whatever the order, and a formatted file is not rewritten -/
theorem C14_writes (files order : List File) :
    (run .write files order).written = (files.filter fun f => f.outcome = .differs).map (·.id) ∧
    (∀ f ∈ files, isError f.outcome = true → f.id ∉ (run .write [f] order).written) ∧
    (∀ f ∈ files, f.outcome = .same → f.id ∉ (run .write [f] order).written) := by
  refine ⟨by simp [run, worker_written], fun f _ he => ?_, fun f _ hs => ?_⟩
  · have : f.outcome ≠ .differs := fun h => by rw [h] at he; cases he
    simp [run, worker_written, this]
  · simp [run, worker_written, hs]

/-- **write mode exit status** -/
theorem C14_exit2 (files order : List File) (h : order.any (fun f => isError f.outcome) = true) :
    (run .write files order).exit = 2 := by
  rw [C13_exit]; simp [h]

example :
    let fs : List File := [⟨0, .differs⟩, ⟨1, .parseError⟩, ⟨2, .same⟩, ⟨3, .differs⟩]
    run .check fs fs.reverse = { exit := 2, written := [], diffs := [0, 3] } ∧
    run .write fs fs = { exit := 2, written := [0, 3], diffs := [] } := by decide +kernel

end StyluaModel.C13
