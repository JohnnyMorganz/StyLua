/-
C06 — Formatting is idempotent (every mechanism that has a model; the layout engine's own
stability is not modelled — DESIGN.md §3/C06).
-/
import StyluaModel.Lemmas.StrLit
import StyluaModel.Lemmas.Block
import StyluaModel.Lemmas.SortReq
import StyluaModel.Lemmas.Paren
import StyluaModel.Lemmas.Trivia
import StyluaModel.Lemmas.TriviaIdem
import StyluaModel.Lemmas.EndToken
import StyluaModel.Lemmas.ParenIdem
import StyluaModel.Model.Table

namespace StyluaModel.C06
open StyluaModel

/-- string literals: rewriting the rewritten literal changes neither the quote nor the body -/
theorem C06_strlit (style : StrLit.QuoteStyle) (b : List Char) :
    StrLit.rewrite style (StrLit.rewrite style b).2 = StrLit.rewrite style b :=
  StrLitLemmas.rewrite_idem style b

/-- numbers -/
theorem C06_number (t : List Char) : StrLit.rewriteNumber (StrLit.rewriteNumber t) = StrLit.rewriteNumber t := by
  rcases StrLitLemmas.rewriteNumber_cases t with h | h | ⟨r, rfl, h⟩
  · rw [h, h]
  · rw [h]; rfl
  · rw [h]; rfl

/-- semicolons: writing the decided semicolons back and formatting the block again decides the same -/
theorem C06_semicolon (r : Option Block.Range) (b : List Block.Stmt) :
    (Block.fmtBlock Block.repaired r (BlockLemmas.applySemis b (Block.fmtBlock Block.repaired r b))).map (·.semi)
      = (Block.fmtBlock Block.repaired r b).map (·.semi) :=
  BlockLemmas.semis_idempotent r false true b

/-- require groups: sorting a sorted group is the identity -/
theorem C06_sort (is : List SortReq.Item) :
    (is.mergeSort SortReq.keyLe).mergeSort SortReq.keyLe = is.mergeSort SortReq.keyLe :=
  List.mergeSort_of_pairwise (List.pairwise_mergeSort SortLemmas.keyLe_trans SortLemmas.keyLe_total is)

/-- comment text: trimming / newline conversion is stable -/
theorem C06_comment_text (t : List Char) (h : TriviaLemmas.noLoneCR t = true) :
    Trivia.fmtText ['\n'] .line (Trivia.fmtText ['\n'] .line t) = Trivia.fmtText ['\n'] .line t ∧
    Trivia.fmtText ['\n'] (.block 0) (Trivia.fmtText ['\n'] (.block 0) t) = Trivia.fmtText ['\n'] (.block 0) t := by
  refine ⟨TriviaLemmas.trimEnd_idem t, ?_⟩
  simp only [Trivia.fmtText, StrLit.rewriteLong, TriviaLemmas.lfToEol_lf]
  exact TriviaLemmas.crlfToLf_noCR _ (TriviaLemmas.noCR_crlfToLf t h)

/-- **leading trivia**: `load_token_trivia` applied to its own output (as the tokenizer reads it back: a line
ending is whitespace with a newline, indentation whitespace without one) returns that output - runs of blank
lines collapse to one and stay one, a comment's own line ending is not counted as a blank line the second time,
nothing accumulates; for trivia lists of any length whose comment texts are already normalised (which the
first pass ensures: `C06_comment_text`) -/
theorem C06_trivia (eol : List Char) (t : List Trivia.Triv) (h : TriviaIdem.FixTexts eol t) :
    Trivia.load eol .leading (TriviaIdem.relex (Trivia.load eol .leading t)) = Trivia.load eol .leading t :=
  TriviaIdem.load_idem eol t h

/-- **trailing trivia** likewise: the comments behind a token, with the single blank a block comment gets, come out
of a second pass unchanged -/
theorem C06_trivia_trailing (eol : List Char) (t : List Trivia.Triv) (h : TriviaIdem.FixTexts eol t) :
    Trivia.load eol .trailing (TriviaIdem.relex (Trivia.load eol .trailing t)) = Trivia.load eol .trailing t :=
  TriviaIdem.load_trailing_idem eol t h

/-- **the blank-line removal in front of a closing token is stable**: applied to its own result, the scan of
format_end_token removes nothing more (whatever the state of its `stop_removal` flag) -/
theorem C06_end_token_scan (stop : Bool) (l : List Trivia.Out) :
    EndToken.scan stop (EndToken.scan stop l) = EndToken.scan stop l :=
  EndTokenLemmas.scan_idem l stop

example : TriviaIdem.FixTexts ['\n'] [.ws true, .ws true, .ws true, .comment .line ['c'], .ws true, .ws true,
      .comment (.block 0) ['b'], .ws false] ∧
    Trivia.load ['\n'] .leading [.ws true, .ws true, .ws true, .comment .line ['c'], .ws true, .ws true,
      .comment (.block 0) ['b'], .ws false] =
      [.newline, .indent, .comment .line ['c'], .newline, .newline, .indent, .comment (.block 0) ['b'], .newline] := by
  refine ⟨?_, by decide +kernel⟩
  simp only [TriviaIdem.FixTexts]
  decide +kernel

/-- **tables: a multi-line table stays multi-line** (its `{` is followed by a newline), whatever the
width, the position and the size of its content -/
theorem C06_table_multi_stable (width col span : Nat) (expand : Bool) :
    Table.decide width col (Table.multiLineOutput span expand) = .multi := by
  simp [Table.decide, Table.multiLineOutput]

/-- when `format_table_constructor` decides for one line -/
theorem decide_single_iff (width col : Nat) (t : Table.TableIn) :
    Table.decide width col t = .single ↔
      t.hasFields = true ∧ t.nlAfterOpen = false ∧ col + t.span + Table.additional t + 1 ≤ width ∧ t.expand = false := by
  unfold Table.decide
  cases t.hasFields <;> cases t.nlAfterOpen <;> cases t.expand <;> simp [Nat.not_lt]

/-- **tables: a single-line table stays single-line provided formatting did not lengthen its
content** beyond what the first decision budgeted for (`span + additional` of the input) -/
theorem C06_table_single_stable (width col content : Nat) (t : Table.TableIn)
    (h1 : Table.decide width col t = .single) (hgrow : content + 2 ≤ t.span + Table.additional t) :
    Table.decide width col (Table.singleLineOutput content) = .single := by
  have := (decide_single_iff width col t).mp h1
  exact (decide_single_iff ..).mpr ⟨rfl, rfl, by simp only [Table.singleLineOutput, Table.additional]; omega, rfl⟩

/-- **… and the proviso is needed: the decision is taken on the input's width, the output's may be
larger** - `local x = { a,b,c,d,e,f,g,h,i,j }` at width 34 (known finding, D14): 21 bytes
between the braces fit (10 + 21 + 0 + 1 = 32), the formatted content is 28 + 2 and does not -/
theorem C06_table_growth_witness :
    let input : Table.TableIn := { hasFields := true, nlAfterOpen := false, span := 21, wsAfterOpen := true, wsBeforeClose := true, expand := false }
    Table.decide 34 10 input = .single ∧ Table.decide 34 10 (Table.singleLineOutput 28) = .multi := by decide +kernel

/-- **the parenthesis rule is idempotent** on every expression without a `- -` pair, in every
context: formatting the formatted tree again drops and adds nothing. (All sizes; the single-line
path, which is also what the second pass runs on an output that fitted.) -/
theorem C06_paren_idem (ctx : ParenRule.Ctx) (e : Expr) (h : ParenIdem.noMM e = true) :
    ParenRule.fmtS ParenRule.repaired ctx (ParenRule.fmtS ParenRule.repaired ctx e)
      = ParenRule.fmtS ParenRule.repaired ctx e :=
  ParenIdem.fmtS_idem e h ctx

/-- in particular on every tree that is read back as itself from its own tight printing -/
theorem C06_paren_idem_faithful (ctx : ParenRule.Ctx) (e : Expr) (h : Prec.faithful e = true) :
    ParenRule.fmtS ParenRule.repaired ctx (ParenRule.fmtS ParenRule.repaired ctx e)
      = ParenRule.fmtS ParenRule.repaired ctx e :=
  ParenIdem.fmtS_idem e (ParenIdem.noMM_of_faithful e h) ctx

/-- **the hypothesis is needed: with a source `- -` pair parentheses are NOT idempotent** — found by evaluating the model, confirmed on
the real code: `(- -f())` → `(-(-f()))` → `-((-f()))`. The first pass keeps the outer pair
(its content hides a call), adds the `- -` guard pair inside; the second pass then sees
"parentheses inside parentheses" and drops the outer pair. (Known finding D32.) -/
theorem C06_paren_not_idempotent :
    let e := Expr.paren (.un .minus (.un .minus (.call 0)))
    let e1 := ParenRule.fmtS ParenRule.repaired .std e
    e1 = .paren (.un .minus (.paren (.un .minus (.call 0)))) ∧
    ParenRule.fmtS ParenRule.repaired .std e1 = .un .minus (.paren (.paren (.un .minus (.call 0)))) ∧
    ParenRule.fmtS ParenRule.repaired .std (ParenRule.fmtS ParenRule.repaired .std e1)
      = ParenRule.fmtS ParenRule.repaired .std e1 := by decide +kernel

/-- on expressions without parentheses the single-line rule changes nothing unless a `- -`
guard is needed; in particular it is the identity on atoms and binary trees of atoms -/
theorem C06_paren_free_example :
    let e := Expr.bin .plus (.atom 0) (.bin .caret (.atom 1) (.un .minus (.atom 2)))
    ParenRule.fmtS ParenRule.repaired .std e = e := by decide +kernel

end StyluaModel.C06
