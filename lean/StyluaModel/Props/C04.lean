/-
C04 — Literal values survive quote and number normalisation.
Property theorems and non-vacuity examples; helper lemmas are in Lemmas/StrLit.lean, but for those of
`C04_escape_class`, which stand beside it.
-/
import StyluaModel.Lemmas.StrLit
import StyluaModel.Lemmas.Long
import StyluaModel.Generated.Decisions

namespace StyluaModel.C04
open StyluaModel.StrLit StyluaModel.StrVal StyluaModel.StrLitLemmas

/-- **C04 (Lua 5.1 semantics)**: for every quote style and every body, the rewritten
string literal denotes the same byte string. -/
theorem C04_value_51 (style : QuoteStyle) (b : List Char) :
    decode51 (rewrite style b).2 = decode51 b :=
  (scan_sim51 _ b).1

/-- **C04 (Lua 5.2+ semantics)**: whenever the input literal is a valid literal of real
Lua 5.2+ (so it has a value at all), the rewritten literal is valid and has that value. -/
theorem C04_value_52 (style : QuoteStyle) (b : List Char) (v : List Nat)
    (h : decode52 b = some v) : decode52 (rewrite style b).2 = some v :=
  scan_sim52 _ b .norm rfl v h

/-- **C04 (well-formedness)**: a body full_moon accepted between `q … q` under the strict
rule (no raw newline) is, after rewriting, accepted between the *chosen* quotes, in every
dialect mode of the tokenizer: no bare delimiter, no dangling backslash. -/
theorem C04_wf (style : QuoteStyle) (q : Char) (b : List Char) (v52 zf : Bool)
    (h : lexOK false false q b = true) :
    lexOK v52 zf (qchar (rewrite style b).1) (rewrite style b).2 = true :=
  lex_mono v52 zf _ _ false false (scan_lex51 _ q b h)

/-- a number token that does not start with `.` / `-.` is returned byte-identical (every
hex, binary, suffixed, underscored spelling) -/
theorem C04_num_id (t : List Char) (h1 : t.head? ≠ some '.')
    (h2 : ¬ (t.head? = some '-' ∧ t.tail.head? = some '.')) : rewriteNumber t = t := by
  unfold rewriteNumber
  split
  · simp at h1
  · simp at h2
  · rfl

/-- `.5` becomes `0.5`: only a leading zero digit is added -/
theorem C04_num_dot (t : List Char) : rewriteNumber ('.' :: t) = '0' :: '.' :: t := rfl

-- the hypotheses of `C04_value_52` and `C04_wf` can be met
example : decode52 "a\\'\"\\x41\\z  b".toList ≠ none := by decide +kernel
example : lexOK false false '"' "it\\'s \\\"q\\\" \\65".toList = true := by decide +kernel

/-- **a long-bracket string denotes the same bytes after formatting**, under either `line_endings`
value: `format_token` turns every CRLF into LF and then every LF into the configured ending; a Lua
reader skips a first line break and reads every line-break sequence (`\n`, `\r`, `\r\n`, `\n\r`) as
`\n`. Holds for bodies of any length in which every carriage return is followed by a line feed. -/
theorem C04_long (eol : List Char) (he : eol = ['\n'] ∨ eol = ['\r', '\n']) (b : List Char)
    (h : TriviaLemmas.noLoneCR b = true) : decodeLong (rewriteLong eol b) = decodeLong b :=
  LongLemmas.long_value eol he b h

/-- the hypothesis is needed: a lone carriage return next to another line break belongs to one
`\n\r` break (or is a break of its own in front of `\r\n`) for the reader; the two-step conversion
splits the first under Windows endings and merges the second under Unix endings -/
theorem C04_long_lone_cr_witness :
    decodeLong (rewriteLong ['\r', '\n'] ['a', '\n', '\r', 'b']) ≠ decodeLong ['a', '\n', '\r', 'b'] ∧
    decodeLong (rewriteLong ['\n'] ['a', '\r', '\r', '\n', 'b']) ≠ decodeLong ['a', '\r', '\r', '\n', 'b'] := by
  decide +kernel

example : TriviaLemmas.noLoneCR ['\r', '\n', 'x', '\n', '\r', '\n', 'y'] = true ∧
    rewriteLong ['\r', '\n'] ['\r', '\n', 'x', '\n', '\r', '\n', 'y'] = ['\r', '\n', 'x', '\r', '\n', '\r', '\n', 'y'] := by decide +kernel

def inRanges (rs : List (Nat × Nat)) (n : Nat) : Bool := rs.any fun r => decide (r.1 ≤ n) && decide (n ≤ r.2)

theorem inRanges_lt {rs : List (Nat × Nat)} {n N : Nat} (hb : rs.all (·.2 < N) = true)
    (h : inRanges rs n = true) : n < N := by
  obtain ⟨r, hr, hn⟩ := List.any_eq_true.mp h
  exact Nat.lt_of_le_of_lt (of_decide_eq_true (Bool.and_eq_true_iff.mp hn).2)
    (of_decide_eq_true (List.all_eq_true.mp hb r hr))

theorem beq_toNat (c d : Char) : (c == d) = (c.toNat == d.toNat) := by
  rw [Bool.eq_iff_iff, beq_iff_eq, beq_iff_eq, Char.toNat_inj]

theorem isDigit_toNat (c : Char) : c.isDigit = (decide (48 ≤ c.toNat) && decide (c.toNat ≤ 57)) := rfl

/-- the two regular expressions `format_token` uses for quoted strings are the ones the scanner
`StrLit.scan` was written for (a changed source regex breaks this obligation) -/
theorem C04_regex_pinned :
    Generated.stringRegex = "\\\\?([\"'])|\\\\([\\S\\s])" ∧
    Generated.unnecessaryEscapesRegex = "^[^\\n\\r\"'0-9\\\\abfnrtuvxz]$" := by decide +kernel

/-- **the escape class of the model is the one in the source**: for every character, `necessary`
(the escapes whose backslash is kept) is membership in the negated class of UNNECESSARY_ESCAPES as
the translator reads it from general.rs -/
theorem C04_escape_class (c : Char) : necessary c = inRanges Generated.necessaryRanges c.toNat := by
  -- both sides as tests on the code point
  simp only [necessary, beq_toNat, isDigit_toNat, Char.reduceToNat]
  generalize c.toNat = n
  by_cases h : n < 123
  · -- up to 'z' = 122, the last member of either side: a finite class against a finite table
    revert n
    decide +kernel
  · -- beyond 'z' every test of `necessary` fails and every range has ended
    have hne (k : Nat) (hk : k < 123) : (n == k) = false :=
      beq_eq_false_iff_ne.mpr fun e => h (e ▸ hk)
    have hdig : decide (n ≤ 57) = false :=
      decide_eq_false fun h9 => h (Nat.lt_of_le_of_lt h9 (by decide))
    have hr : inRanges Generated.necessaryRanges n = false :=
      Bool.eq_false_iff.mpr fun hr => h (inRanges_lt (by decide) hr)
    simp (disch := decide) only [hne, hdig, hr, Bool.and_false, Bool.or_false]

end StyluaModel.C04
