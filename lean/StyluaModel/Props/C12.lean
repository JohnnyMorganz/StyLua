/-
C12 — Require sorting only permutes statements inside a require block.
Model: Model/SortReq.lean (`repaired` = after fix 3cbabd9, `pinned` = before).
-/
import StyluaModel.Lemmas.SortReq

namespace StyluaModel.C12
open StyluaModel.SortReq StyluaModel.SortLemmas

/-- **permutation**: nothing is lost, duplicated or created -/
theorem C12_perm (v : Variant) (enabled : Bool) (items : List Item) :
    (sortRequires v enabled items).Perm items :=
  sortRequires_perm v enabled items

/-- **option off**: statement order never changes -/
theorem C12_off (v : Variant) (items : List Item) : sortRequires v false items = items := rfl

/-- **the parts are a partition of the top level, in order**, a group contains only
single-name `require` (resp. `GetService`) locals of one kind and an `other` part contains
none: so a group never swallows another statement and groups of different kinds never merge -/
theorem C12_partition (items : List Item) :
    flat (partition items) = items ∧ ∀ p ∈ partition items, PartOK p :=
  ⟨partition_flat items, partition_ok items⟩

/-- **only members of one group exchange places**: the output is, part by part and in the
same order, a permutation of each part; parts that are not groups are reproduced as they are -/
theorem C12_blocks (v : Variant) (items : List Item) :
    ∃ outs : List (List Item), sortRequires v true items = outs.flatten ∧ Blockwise outs (partition items) := by
  simpa [sortRequires] using sortParts_blocks v false (partition items)

/-- **each group comes out ordered by NAME** (byte-lexicographic, as Rust orders `String`s) -/
theorem C12_sorted (v : Variant) (d : Bool) (k : GKind) (is : List Item) (h : allNormal v d is = true) :
    List.Pairwise (fun a b => a.key ≤ b.key) (sortPart v d (.group k is)) := by
  simp only [sortPart, h, if_true]
  exact (List.pairwise_mergeSort keyLe_trans keyLe_total is).imp fun hab => of_decide_eq_true hab

/-- **stable**: two members whose names are already in order keep their relative order (in
particular, duplicates do) -/
theorem C12_stable (v : Variant) (d : Bool) (k : GKind) (is : List Item) (a b : Item)
    (hab : [a, b].Sublist is) (hle : a.key ≤ b.key) : [a, b].Sublist (sortPart v d (.group k is)) := by
  simp only [sortPart]
  split
  · exact List.sublist_mergeSort keyLe_trans keyLe_total (by simp [keyLe, hle]) hab
  · exact hab

/-- **a group containing an ignored statement (single directive or open region) or a
statement outside the range is left alone** -/
theorem C12_ignored_group (d : Bool) (k : GKind) (is : List Item) (it : Item) (hm : it ∈ is)
    (h : it.lines.contains .ignore = true ∨ it.inRange = false) :
    sortPart repaired d (.group k is) = is :=
  sortPart_ignored repaired d k is (allNormal_false_of_member d is it hm h)

/-- … and so is a group all of which lies in a region opened by `ignore start` -/
theorem C12_region (k : GKind) (a b : Item) (h : a.lines = [.ignoreStart]) :
    sortPart repaired false (.group k [a, b]) = [a, b] := by
  apply sortPart_ignored
  simp [allNormal, repaired, flagsAfter, h, Block.toggle, isNormal]

/-- the code before the repair sorted inside an `ignore start` region (D18) -/
theorem C12_pinned_violates :
    let a : Item := { id := 0, kind := some .require, key := [98], nameLine := 2, endLine := 2, lines := [.ignoreStart], inRange := true }
    let b : Item := { id := 1, kind := some .require, key := [97], nameLine := 3, endLine := 3, lines := [], inRange := true }
    allNormal pinned false [a, b] = true ∧ allNormal repaired false [a, b] = false ∧
    sortPart repaired false (.group .require [a, b]) = [a, b] := by
  refine ⟨by decide +kernel, by decide +kernel, ?_⟩
  exact sortPart_ignored repaired false .require _ (by decide +kernel)

example :
    let mk (i : Nat) (k : Option GKind) (key : List Nat) (l : Nat) : Item :=
      { id := i, kind := k, key := key, nameLine := l, endLine := l, lines := [], inRange := true }
    (partition
      [mk 0 (some .require) [99] 1, mk 1 (some .require) [97] 2, mk 2 none [] 3, mk 3 (some .require) [98] 4,
       mk 4 (some .getService) [97] 5, mk 5 (some .require) [97] 7, mk 6 (some .require) [96] 8]).map
        (fun p => p.items.map (·.id))
      = [[0, 1], [2], [3], [4], [5, 6]] := by decide +kernel

end StyluaModel.C12
