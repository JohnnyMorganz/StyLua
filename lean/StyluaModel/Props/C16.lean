/-
C16 — Exactly the selected files are processed, each once (StyLua's glue around the walker).
-/
import StyluaModel.Model.Select

namespace StyluaModel.C16
open StyluaModel.Select

/-- what "selected" means for a yielded entry: it is a file, and either was named explicitly
without --respect-ignores, or matches the globs (the default one when no --glob is given) and -
if explicit - is not excluded by `.styluaignore` -/
def Selected (o : Opts) (e : Entry) : Prop :=
  e.isFile = true ∧
    ((e.explicit = true ∧ o.respectIgnores = false) ∨
     ((o.globGiven = true ∨ e.luaName = true) ∧ (e.explicit = false ∨ e.styluaIgnored = false)))

theorem accepted_iff_selected (o : Opts) (e : Entry) : accepted o e = true ↔ Selected o e := by
  simp only [accepted, respects, Selected]
  cases e.explicit <;> cases o.respectIgnores <;> simp [and_assoc]

theorem process_sublist (v : Variant) (o : Opts) (es : List Entry) :
    ∀ seen, (process v o seen es).Sublist (es.filter (accepted o)) := by
  induction es with
  | nil => intro _; exact .slnil
  | cons x rest ih =>
    intro seen
    simp only [process, List.filter_cons]
    cases accepted o x <;> simp only [Bool.false_eq_true, if_true, if_false]
    · split
      · exact ih _
      · split <;> exact ih _
    · split
      · split
        · exact (ih _).cons _
        · exact (ih _).cons_cons _
      · split
        · exact (ih _).cons _
        · exact (ih _).cons_cons _

/-- **only selected entries are processed** (both generations of the code) -/
theorem C16_only_selected (v : Variant) (o : Opts) (seen : List Nat) (es : List Entry) :
    ∀ e ∈ process v o seen es, e ∈ es ∧ Selected o e := fun e he =>
  have := List.mem_filter.mp ((process_sublist v o es seen).subset he)
  ⟨this.1, (accepted_iff_selected o e).mp this.2⟩

theorem process_repaired_cons (o : Opts) (seen : List Nat) (x : Entry) (rest : List Entry) :
    process repaired o seen (x :: rest) =
      if accepted o x = true ∧ x.file ∉ seen then x :: process repaired o (x.file :: seen) rest
      else process repaired o seen rest := by
  cases h : accepted o x <;> simp [process, repaired, h]

theorem mem_process_repaired (o : Opts) (es : List Entry) : ∀ seen f,
    f ∈ (process repaired o seen es).map (·.file) ↔
      f ∉ seen ∧ ∃ e ∈ es, accepted o e = true ∧ e.file = f := by
  induction es with
  | nil => intro seen f; simp [process]
  | cons x rest ih =>
    intro seen f
    rw [process_repaired_cons]
    split
    next h =>
      simp only [List.map_cons, List.mem_cons, ih, not_or, exists_eq_or_imp]
      by_cases hf : x.file = f
      · subst hf; simp [h.1, h.2]
      · simp [hf, Ne.symm hf]
    next h =>
      simp only [ih, List.mem_cons, exists_eq_or_imp]
      refine and_congr_right fun hs => (or_iff_right ?_).symm
      rintro ⟨ha, rfl⟩
      exact h ⟨ha, hs⟩

/-- **every selected file is processed**: an entry the rules select has its file among the
processed ones (unless it had already been processed before this run of the loop) -/
theorem C16_all_selected (o : Opts) (es : List Entry) : ∀ seen, ∀ e ∈ es, Selected o e →
    e.file ∈ seen ∨ e.file ∈ (process repaired o seen es).map (·.file) := fun _ e he hsel =>
  Decidable.or_iff_not_imp_left.mpr fun hs =>
    (mem_process_repaired ..).mpr ⟨hs, e, he, (accepted_iff_selected o e).mpr hsel, rfl⟩

/-- **a file named explicitly is formatted regardless** (unless --respect-ignores): it is
processed, whatever its name and whatever `.styluaignore` says -/
theorem C16_explicit (o : Opts) (seen : List Nat) (e : Entry) (es : List Entry) (hm : e ∈ es)
    (hf : e.isFile = true) (hx : e.explicit = true) (hr : o.respectIgnores = false)
    (hs : e.file ∉ seen) :
    e.file ∈ (process repaired o seen es).map (·.file) :=
  (C16_all_selected o es seen e hm ⟨hf, .inl ⟨hx, hr⟩⟩).resolve_left hs

/-- **each file is processed at most once**, however many arguments reach it and however its
path is spelled -/
theorem C16_once_per_file (o : Opts) (es : List Entry) : ∀ seen,
    ((process repaired o seen es).map (·.file)).Nodup ∧ ∀ e ∈ process repaired o seen es, e.file ∉ seen := by
  refine fun seen => ⟨?_, fun e he => ((mem_process_repaired ..).mp (List.mem_map_of_mem he)).1⟩
  induction es generalizing seen with
  | nil => exact .nil
  | cons x rest ih =>
    rw [process_repaired_cons]
    split
    · exact List.nodup_cons.mpr ⟨fun h => ((mem_process_repaired ..).mp h).1 List.mem_cons_self, ih _⟩
    · exact ih _

/-- the code before fix 325a42a: the "once" was per spelling, not per file - the same file
reached as `./a.lua` (through `.`) and as `a.lua` (named) was processed twice (D16) -/
theorem C16_pinned_twice :
    let o : Opts := { globGiven := false, respectIgnores := false }
    let viaDir : Entry := { file := 7, spelling := 1, isFile := true, explicit := false, luaName := true, styluaIgnored := false }
    let named : Entry := { file := 7, spelling := 2, isFile := true, explicit := true, luaName := true, styluaIgnored := false }
    (process pinned o [] [viaDir, named]).map (·.file) = [7, 7] ∧
    (process repaired o [] [viaDir, named]).map (·.file) = [7] := by decide +kernel

/-- remembering *rejected* entries by file would be wrong: `stylua . c.txt` must still format
the explicitly named c.txt although `./c.txt` was rejected by the default glob first -/
theorem C16_rejected_does_not_shadow :
    let o : Opts := { globGiven := false, respectIgnores := false }
    let viaDir : Entry := { file := 3, spelling := 1, isFile := true, explicit := false, luaName := false, styluaIgnored := false }
    let named : Entry := { file := 3, spelling := 2, isFile := true, explicit := true, luaName := false, styluaIgnored := false }
    (process repaired o [] [viaDir, named]).map (·.spelling) = [2] := by decide +kernel

example :
    let o : Opts := { globGiven := false, respectIgnores := true }
    let e1 : Entry := { file := 1, spelling := 1, isFile := true, explicit := true, luaName := false, styluaIgnored := false }
    let e2 : Entry := { file := 2, spelling := 2, isFile := true, explicit := true, luaName := true, styluaIgnored := true }
    let e3 : Entry := { file := 3, spelling := 3, isFile := true, explicit := false, luaName := true, styluaIgnored := false }
    (process repaired o [] [e1, e2, e3, e3]).map (·.file) = [3] := by decide +kernel

end StyluaModel.C16
