/-
C01 — Formatted output is always syntactically valid (the mechanisms that have a model).
Property theorems and non-vacuity examples only.

Decomposition (DESIGN.md §3/C01): the output re-parses if (i) the printed text re-lexes to
the token sequence the formatter holds and (ii) that sequence differs from the input's
only by grammar-preserving edits. The theorems here cover, for expressions of any size and
every layout oracle: the operator texts (regenerated from the compiled code on every run)
keep operands apart; no `--` is ever produced from two minus signs; every parenthesis
edit yields a tree that re-parses to itself.
-/
import StyluaModel.Generated.OpTables
import StyluaModel.Lemmas.Paren
import StyluaModel.Lemmas.StrLit
import StyluaModel.Lemmas.ParserMono
import StyluaModel.Lemmas.TypeParen
import StyluaModel.Model.Block
import StyluaModel.Generated.Decisions

namespace StyluaModel.C01
open StyluaModel StyluaModel.ParenRule StyluaModel.Prec StyluaModel.ParenLemmas StyluaModel.Generated Expr

/-- every binary operator is emitted with a space on both sides, so it can never glue to an
operand, to another operator, or form `--`, `..`+digit, `//`… with its neighbours -/
theorem C01_binops_spaced :
    ∀ nt ∈ binOpTexts, nt.2.head? = some ' ' ∧ nt.2.getLast? = some ' ' ∧ 3 ≤ nt.2.length := by
  decide +kernel

/-- the model's operator list and the generated table name the same 21 operators -/
theorem C01_binop_table_complete :
    binOpTexts.map (·.1) =
      ["caret", "percent", "slash", "star", "dslash", "minus", "plus", "concat", "shl", "shr", "band",
       "bxor", "bor", "gt", "ge", "lt", "le", "ne", "eq", "and", "or"] := rfl

/-- unary operators: the word operator `not` is followed by a space; the symbolic ones are a
single character and none of them is emitted with a trailing `-` -/
theorem C01_unops_shape :
    unOpTexts = [("m", ['-']), ("n", ['n', 'o', 't', ' ']), ("h", ['#']), ("t", ['~'])] := rfl

/-- **no `--` from two minus signs**, on both paths and for every layout oracle: the only
unspaced operator that can precede a `-` is the unary minus itself. -/
theorem C01_no_minus_minus (o : Oracle) (e : Expr) (hf : faithful e = true) :
    faithful (fmtS repaired .std e) = true ∧ faithful (fmtH repaired o .std e) = true :=
  ⟨(fmtS_good e .std .top rfl hf rfl).faithful, (fmtH_good o .std .top e rfl hf rfl).faithful⟩

/-- **edit closure for expressions**: whatever parentheses were dropped or added, the
result is a tree that prints and re-parses to itself (`faithful`), at every position it can
be placed in, on both paths, for every oracle. -/
theorem C01_expr_reparses (o : Oracle) (ctx : Ctx) (p : Pos) (e : Expr) (hd : dropOK ctx p = true)
    (hf : faithful e = true) (hok : okAt p e = true) :
    (faithful (fmtS repaired ctx e) = true ∧ okAt p (fmtS repaired ctx e) = true) ∧
    (faithful (fmtH repaired o ctx e) = true ∧ okAt p (fmtH repaired o ctx e) = true) :=
  let s := fmtS_good e ctx p hd hf hok
  let h := fmtH_good o ctx p e hd hf hok
  ⟨⟨s.faithful, s.okAt⟩, ⟨h.faithful, h.okAt⟩⟩

/-- **the parser reads the formatted expression back as exactly the formatted tree**: `faithful`
is not an assumption about parsing but a theorem about the token-level mirror of full_moon's
precedence-climbing parser (`Spec/Parser.lean`, compared with full_moon on every run): for every
input tree, position, layout oracle and both paths, parsing the printed output - with any
sufficiently large fuel - yields the output tree itself, all tokens consumed. -/
theorem C01_expr_parses_back (o : Oracle) (ctx : Ctx) (p : Pos) (e : Expr) (hd : dropOK ctx p = true)
    (hf : faithful e = true) (hok : okAt p e = true) :
    (∃ n, ∀ f, n ≤ f → Parser.parse f (Parser.print (fmtS repaired ctx e)) = some (fmtS repaired ctx e)) ∧
    (∃ n, ∀ f, n ≤ f → Parser.parse f (Parser.print (fmtH repaired o ctx e)) = some (fmtH repaired o ctx e)) :=
  ⟨ParserLemmas.parse_print _ (fmtS_good e ctx p hd hf hok).faithful,
   ParserLemmas.parse_print _ (fmtH_good o ctx p e hd hf hok).faithful⟩

/-- the hypothesis on the input is the same statement about the input: a tree that the parser
produced from its own printed form -/
theorem C01_faithful_parses (e : Expr) (hf : faithful e = true) :
    ∃ n, ∀ f, n ≤ f → Parser.parse f (Parser.print e) = some e :=
  ParserLemmas.parse_print e hf

/-- … and the executable parser (the one `modeld` runs against full_moon) never answers anything
else: with whatever fuel it returns a tree for the printed output, it is the output tree -/
theorem C01_parser_answers_right (ctx : Ctx) (p : Pos) (e e' : Expr) (hd : dropOK ctx p = true)
    (hf : faithful e = true) (hok : okAt p e = true) (f : Nat)
    (h : Parser.parse f (Parser.print (fmtS repaired ctx e)) = some e') : e' = fmtS repaired ctx e :=
  ParserLemmas.parse_print_any_fuel _ _ (fmtS_good e ctx p hd hf hok).faithful f h

/-- **Luau types stay readable**: the type-parenthesis rule never leaves a compound type bare where
full_moon's type parser would read it differently or reject it (`(A | B)?`, `A & (B | C)`,
`(() -> A) | B`, …), at every depth, in every context, for every layout oracle -/
theorem C01_type_wellformed (o : List Nat → Bool) (p : List Nat) (c : TypeParen.Ctx) (pos : TypeSpec.Pos)
    (t : TypeParen.Ty) (hw : TypeSpec.wf pos t = true) (hc : TypeSpec.covers c pos = true) :
    TypeSpec.wf pos (TypeParen.fmtT TypeParen.current o p c t) = true :=
  TypeLemmas.wf_fmtT o t pos p c hw hc

/-- **string tokens stay one token**: the rewritten body is accepted between the chosen
quotes by the tokenizer rule, in every dialect mode -/
theorem C01_string_token (style : StrLit.QuoteStyle) (q : Char) (b : List Char) (v52 zf : Bool)
    (h : StrVal.lexOK false false q b = true) :
    StrVal.lexOK v52 zf (StrLit.qchar (StrLit.rewrite style b).1) (StrLit.rewrite style b).2 = true :=
  StrLitLemmas.lex_mono v52 zf _ _ false false (StrLitLemmas.scan_lex51 _ q b h)

example : (" ^ ".toList, " .. ".toList) = ([' ', '^', ' '], [' ', '.', '.', ' ']) := by decide +kernel
example : faithful (un .minus (paren (un .minus (atom 0)))) = true := by decide +kernel
example : Parser.parse 20 (Parser.print (bin .plus (atom 0) (bin .star (atom 1) (atom 2)))) =
    some (bin .plus (atom 0) (bin .star (atom 1) (atom 2))) := by decide +kernel
/-- an unfaithful tree is *not* read back as itself: `(a + b) * c` printed without its parentheses -/
example : Parser.parse 20 (Parser.print (bin .star (bin .plus (atom 0) (atom 1)) (atom 2))) =
    some (bin .plus (atom 0) (bin .star (atom 1) (atom 2))) := by decide +kernel

/-- name of a statement kind in the source (`full_moon::ast::Stmt`) -/
def kindNames : Block.Kind → List String
  | .assignment => ["Assignment"]
  | .localAssignment => ["LocalAssignment"]
  | .call => ["FunctionCall"]
  | .repeatB => ["Repeat"]
  | .other => []

/-- **a statement that can end in an expression keeps (or gets) a semicolon in front of a statement
that begins with `(`**, and the statement kinds for which the model says so are the ones
`check_stmt_requires_semicolon` lists in the source, as the translator reads them on every run
(removing `Stmt::Repeat(_)` from that match breaks this obligation) -/
theorem C01_semicolon_kinds (s n : Block.Stmt) :
    (Block.requiresSemi s (some n) = (n.startsParen && (kindNames s.kind).any Generated.semiStmtKinds.contains)) ∧
    Block.requiresSemi s none = false ∧
    Generated.semiNextKinds = ["FunctionCall", "Assignment", "CompoundAssignment"] := by
  simp only [Block.requiresSemi]
  cases s.kind <;> exact ⟨by simp [kindNames, semiStmtKinds], rfl, rfl⟩

end StyluaModel.C01
