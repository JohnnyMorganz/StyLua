/-
C18 — Diffs printed by `--check` reconstruct the formatted file: the JSON producer (StyLua's own
code, Model/Diff.lean) and the unified format (the grouping, hunk-header and hunk-body code of the
`similar` crate that `output_diff_unified` calls, Model/Unified.lean). The edit script itself
(Myers + compaction inside `similar`) is a parameter of both models.
Property theorems and non-vacuity examples only; helper lemmas are in Lemmas/Diff.lean and Lemmas/Unified.lean.
-/
import StyluaModel.Lemmas.Diff
import StyluaModel.Lemmas.Unified

namespace StyluaModel.C18
open StyluaModel.Diff StyluaModel.DiffLemmas StyluaModel.Unified

/-- **the JSON mismatches, applied as line-range replacements, yield exactly the formatted
text** — for every valid edit script, over files of any length, in which every pure insertion
is one line long (`pinned` = the code as it is: an Insert records only its first line; a
multi-line pure insertion has never been observed between a file and its formatted form, where
new lines come with changed neighbours, i.e. as Replace) -/
theorem C18_json_partial (ops : List Op) (old new : List Nat) (h : Valid ops old new = true)
    (hi : insertsOK pinned ops = true) :
    apply 0 old (mismatches pinned 0 0 ops old new) = new :=
  DiffLemmas.main pinned ops 0 0 old new h hi

/-- the full statement, for a producer that records every inserted line -/
theorem C18_json (ops : List Op) (old new : List Nat) (h : Valid ops old new = true) :
    apply 0 old (mismatches repaired 0 0 ops old new) = new :=
  DiffLemmas.main repaired ops 0 0 old new h (insertsOK_repaired ops)

/-- **… as the code computes them**: `output_diff_json` does not count lines itself, it copies the
`old_index` / `new_index` fields of `similar`'s operations. Whenever those fields are the running
positions the result is the one above. (`similar`'s compaction pass can leave an insertion that it
shifted across a run of *identical* lines with its former index - `tests/inputs/table-6.lua` is an
instance; the reported ranges then describe an equivalent script, and the reconstruction is
checked on the real pairs rather than proved.) -/
theorem C18_json_as_indexed (xs : List IOp) (old new : List Nat)
    (hs : InOrder 0 0 xs = true) (h : Valid (xs.map (·.op)) old new = true) :
    apply 0 old (mismatchesI repaired xs old new) = new := by
  rw [DiffLemmas.mismatchesI_seq repaired xs 0 0 old new hs]
  exact C18_json _ old new h

/-- **no mismatch is reported iff the file is already formatted** -/
theorem C18_none_iff (v : Variant) (ops : List Op) (old new : List Nat) (h : Valid ops old new = true) :
    (mismatches v 0 0 ops old new = [] → old = new) ∧
    (ops.all isEqualOp = true → mismatches v 0 0 ops old new = []) :=
  ⟨fun hm => equal_script_same ops old new h ((none_iff v ops 0 0 old new).mp hm),
   fun ha => (none_iff v ops 0 0 old new).mpr ha⟩

/-- reported line ranges are the script's ranges: a mismatch produced at old index `oi` for
a deletion / replacement of `n` lines covers `oi .. oi+n-1` -/
theorem C18_ranges (v : Variant) (oi ni n m : Nat) (rest : List Op) (old new : List Nat) :
    ((mismatches v oi ni (.replace n m :: rest) old new).head?.map fun x =>
        (x.originalStart, x.originalEnd, x.expectedStart, x.expectedEnd)) = some (oi, oi + n - 1, ni, ni + m - 1) ∧
    ((mismatches v oi ni (.delete n :: rest) old new).head?.map fun x => (x.originalStart, x.originalEnd)) = some (oi, oi + n - 1) ∧
    ((mismatches v oi ni (.insert n :: rest) old new).head?.map fun x => (x.expectedStart, x.expectedEnd)) = some (ni, ni + n - 1) :=
  ⟨rfl, rfl, rfl⟩

/-- the hypothesis of `C18_json_partial` is needed: the code records only the first line of a
multi-line pure insertion, from which the file cannot be reconstructed (latent defect D10) -/
theorem C18_pinned_violates :
    let old := [1, 5]
    let new := [1, 2, 3, 5]
    let ops := [Op.equal 1, .insert 2, .equal 1]
    Valid ops old new = true ∧ apply 0 old (mismatches pinned 0 0 ops old new) = [1, 2, 5] ∧
    apply 0 old (mismatches repaired 0 0 ops old new) = new := by decide +kernel


/-! ## the unified format -/

/-- **applying the printed unified diff to the file yields exactly the formatted text** - with a
*strict* applier (every context and deleted line must be present where the header says, all four
header numbers must agree with the hunk body and with the position of the output, no fuzz): for
every valid edit script whose index fields are the running positions, over files of any length,
and for every context radius (`similar` uses 3). This is the statement for `text_diff.unified_diff()` as the pinned code
called it; `C18_unified_fixed` below removes the hypothesis for the code as it is now. -/
theorem C18_unified (n : Nat) (xs : List IOp) (old new : List Nat)
    (hs : InOrder 0 0 xs = true) (hv : Valid (xs.map (·.op)) old new = true) :
    applyU 0 0 old (hunks n xs old new) = some new :=
  UnifiedLemmas.unified_from n xs old new 0 0
    (UnifiedLemmas.script_of_valid old new xs 0 0 hs hv (Nat.zero_le _) (Nat.zero_le _))

/-- **nothing is printed only if the file is already formatted**: `output_diff_unified` returns
`None` iff `ratio() == 1.0`; with exact arithmetic that is the case iff the script has no
Delete / Insert / Replace, and then the two files are equal (the `f32` rounding of the quotient -
exact below 2^24 lines - and the converse, which needs the script to be minimal, are not modelled) -/
theorem C18_unified_none (ops : List Op) (old new : List Nat) (h : Valid ops old new = true) :
    (ratioIsOne ops old.length new.length = true ↔ ops.all isEqualOp = true) ∧
    (ratioIsOne ops old.length new.length = true → old = new) :=
  ⟨UnifiedLemmas.ratio_iff ops old new h,
   fun hr => equal_script_same ops old new h ((UnifiedLemmas.ratio_iff ops old new h).mp hr)⟩

/-- **a diff is printed whenever the script has a change**: a script with a Delete, Insert or Replace yields at
least one hunk, and the rendered text starts with the `--- old` / `+++ new` header - together with `C18_unified_none`
and `C18_unified`: nothing printed iff nothing differs, and what is printed reconstructs the file -/
theorem C18_unified_printed (n : Nat) (xs : List IOp) (old new : List Nat) (text : Nat → String)
    (h : UnifiedLemmas.hasChange xs = true) :
    hunks n xs old new ≠ [] ∧ (render text (hunks n xs old new)).length ≠ 0 :=
  ⟨UnifiedLemmas.hunks_nonempty n xs old new h,
   UnifiedLemmas.render_nonempty text _ (UnifiedLemmas.hunks_nonempty n xs old new h)⟩

/-- the numbers of a hunk header (`UnifiedDiffHunkRange::fmt`: a length of 1 is omitted, an empty
range is written with the line *before* it) are read back by a patch tool as the range they came from -/
theorem C18_header_roundtrip (s e : Nat) (h : s ≤ e) : decodeRange (encodeRange s e) = (s, e - s) :=
  have _ := h  -- not needed: an empty range is written `s,0` whether `e = s` or `e < s`
  UnifiedLemmas.range_roundtrip s e

/-- **... and for the code as it is now** (`renumber_ops`, fix a2545ec): no hypothesis on the index fields is left -
whatever `similar`'s compaction did to them, the printed hunks are accepted by the strict applier and reproduce the
formatted file, for every valid script -/
theorem C18_unified_fixed (n : Nat) (xs : List IOp) (old new : List Nat)
    (hv : Valid (xs.map (·.op)) old new = true) :
    applyU 0 0 old (hunksFixed n xs old new) = some new :=
  C18_unified n (renumber 0 0 xs) old new (UnifiedLemmas.renumber_inOrder xs 0 0)
    (UnifiedLemmas.renumber_ops xs 0 0 ▸ hv)

/-- the repair is conservative: where the index fields were right (218 of the 220 formattable repository inputs)
the renumbered script is the script, so the printed diff is byte for byte what it was -/
theorem C18_unified_fix_conservative (n : Nat) (xs : List IOp) (old new : List Nat) (h : InOrder 0 0 xs = true) :
    hunksFixed n xs old new = hunks n xs old new :=
  congrArg (hunks n · old new) (UnifiedLemmas.renumber_id xs 0 0 h)

/-- the code as pinned violated the property: on the script `similar` really produces for `tests/inputs/table-6.lua`
(found by the thorough tier of the `diffuni` correspondence, whose model-side applier rejected it; GNU `patch` calls
the printed diff malformed) the header is `-1,2` over a body with three old-side lines. Line ids: the inserted line
has the text of the line it was shifted across. -/
theorem C18_unified_pinned_violates :
    let old := [0, 1, 2]
    let new := [0, 2, 2]
    let xs : List IOp := [⟨.equal 1, 0, 0⟩, ⟨.delete 1, 1, 2⟩, ⟨.equal 1, 2, 1⟩, ⟨.insert 1, 2, 2⟩]
    Valid (xs.map (·.op)) old new = true ∧
    applyU 0 0 old (hunks 3 xs old new) = none ∧
    applyU 0 0 old (hunksFixed 3 xs old new) = some new := by decide +kernel

/-! ## non-vacuity -/
example : Valid [.equal 1, .replace 1 2, .delete 1, .equal 1, .insert 1] [1, 2, 3, 4] [1, 7, 8, 4, 9] = true ∧
    apply 0 [1, 2, 3, 4] (mismatches repaired 0 0 [.equal 1, .replace 1 2, .delete 1, .equal 1, .insert 1] [1, 2, 3, 4] [1, 7, 8, 4, 9])
      = [1, 7, 8, 4, 9] := by decide +kernel

/-- two hunks at radius 1: the gap between them is copied, both headers are accepted -/
example :
    let old := [1, 2, 3, 4, 5, 6, 7, 8]
    let new := [1, 20, 3, 4, 5, 6, 8]
    let xs : List IOp := [⟨.equal 1, 0, 0⟩, ⟨.replace 1 1, 1, 1⟩, ⟨.equal 4, 2, 2⟩, ⟨.delete 1, 6, 6⟩, ⟨.equal 1, 7, 6⟩]
    InOrder 0 0 xs = true ∧ Valid (xs.map (·.op)) old new = true ∧ (hunks 1 xs old new).length = 2 ∧
    applyU 0 0 old (hunks 1 xs old new) = some new := by decide +kernel

end StyluaModel.C18
