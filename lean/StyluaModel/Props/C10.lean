/-
C10 — Output whitespace obeys line_endings and indent settings (the mechanisms with a model).
Property theorems and non-vacuity examples only; helper lemmas are in Lemmas/Trivia.lean, Comments.lean, EndToken.lean.
-/
import StyluaModel.Lemmas.Trivia
import StyluaModel.Lemmas.Comments
import StyluaModel.Lemmas.EndToken

namespace StyluaModel.C10
open StyluaModel.Trivia StyluaModel.TriviaLemmas StyluaModel.StrLit

/-- **input whitespace is never copied**: every token `load_token_trivia` returns is a created
newline (the configured ending), a created indent, a single space, or a re-formatted comment -/
theorem C10_created_ws (eol : List Char) (p : Pos) (t : List Triv) :
    ∀ nl skip, ∀ o ∈ loadAux eol p nl skip t,
      o = .newline ∨ o = .indent ∨ o = .space ∨ ∃ k txt, o = .comment k (fmtText eol k txt) := by
  intro nl skip o ho
  cases o with
  | comment k txt =>
    -- a comment of the output is one of `commentsOut`, which `load_comments` describes
    have hm : (k, txt) ∈ commentsOut (loadAux eol p nl skip t) := by
      rw [commentsOut_eq]; exact List.mem_filterMap.2 ⟨_, ho, rfl⟩
    rw [load_comments] at hm
    obtain ⟨c, _, hc⟩ := List.mem_map.1 hm
    cases hc
    exact .inr (.inr (.inr ⟨c.1, c.2, rfl⟩))
  | newline => exact .inl rfl
  | indent => exact .inr (.inl rfl)
  | space => exact .inr (.inr (.inl rfl))

/-- **a line comment (or the shebang) never ends in whitespace** — in particular it carries
no trailing carriage return from a CRLF input -/
theorem C10_line_comment_clean (eol : List Char) (t : List Char) (c : Char)
    (h : (fmtText eol .line t).getLast? = some c) : isWs c = false ∧ c ≠ '\r' := by
  have := trimEnd_last t c h
  refine ⟨this, ?_⟩
  intro hc; subst hc; simp [isWs] at this

/-- **block comments / long strings, Unix endings**: no carriage return survives -/
theorem C10_block_lf (lvl : Nat) (t : List Char) (h : noLoneCR t = true) :
    noCR (fmtText ['\n'] (.block lvl) t) = true := by
  simp only [fmtText, rewriteLong, lfToEol_lf]
  exact noCR_crlfToLf t h

/-- **block comments / long strings, Windows endings**: every line ending is exactly CRLF -/
theorem C10_block_crlf (lvl : Nat) (t : List Char) (h : noLoneCR t = true) :
    wellCRLF (fmtText ['\r', '\n'] (.block lvl) t) = true :=
  wellCRLF_lfToEol _ (noCR_crlfToLf t h)

/-- the hypothesis is needed: a lone carriage return is passed through untouched -/
theorem C10_lone_cr_passes :
    fmtText ['\n'] (.block 0) ['a', '\r', 'b'] = ['a', '\r', 'b'] := by decide +kernel

/-- **end of file**: when the end of the file is formatted, what follows the last statement's own
line ending is either nothing, or ends with a comment followed by exactly one line ending - never
blank lines, never indentation, never a missing final newline (whatever blank lines, spaces and
comments the input had there) -/
theorem C10_eof_one_newline (eol : List Char) (lead : List Triv) (o : List Out)
    (h : Eof.fmtEof eol true lead = some o) :
    o = [] ∨ ∃ pre k t, o = pre ++ [.comment k t, .newline] := by
  simp only [Eof.fmtEof, Bool.not_true, Bool.false_eq_true, if_false, Option.some.injEq] at h
  split at h
  · left; exact h.symm
  · rename_i hall
    obtain ⟨pre, k, t, hp⟩ := EofLemmas.popWs_last (load eol .leading lead) hall
    exact .inr ⟨pre, k, t, by rw [← h, hp, List.append_assoc]; rfl⟩

example : noLoneCR "one\r\ntwo\nthree".toList = true ∧
    fmtText ['\r', '\n'] (.block 0) "one\r\ntwo\nthree".toList = "one\r\ntwo\r\nthree".toList := by decide +kernel

/-- **no blank line in front of a closing token**: in the leading trivia of a formatted `end` / `}` / `until`, read
from the back, indentation aside, the first line ending met directly follows a comment (it is that comment's own
line ending) - or there is none: runs of blank lines at the end of a block are removed, whatever their length -/
theorem C10_end_token_no_blank (eol : List Char) (lead : List Trivia.Triv) :
    EndTokenLemmas.tailClean (EndToken.endLeading eol lead).reverse = true := by
  simp only [EndToken.endLeading, List.reverse_reverse]
  exact EndTokenLemmas.scan_clean _

example : EndToken.endLeading ['\n'] [.ws true, .ws true, .comment .line ['c'], .ws true, .ws true, .ws true] =
    [.newline, .indent, .comment .line ['c'], .newline] := by decide +kernel

end StyluaModel.C10
