/-
C02 — Formatting never changes what the program means (the edit kinds that have a model).
-/
import StyluaModel.Lemmas.Paren
import StyluaModel.Lemmas.StrLit
import StyluaModel.Lemmas.Parser
import StyluaModel.Lemmas.TypeParen
import StyluaModel.Lemmas.Block

namespace StyluaModel.C02
open StyluaModel StyluaModel.ParenRule StyluaModel.Prec StyluaModel.ParenLemmas Expr

/-- **expressions**: on both layout paths and for every oracle the formatted tree is faithful
(so the parser reads back exactly this tree) and has the meaning of the input tree: same
operators, operands and grouping; `(f())` / `(...)` truncation kept. -/
theorem C02_expr (o : Oracle) (e : Expr) (hf : faithful e = true) :
    (faithful (fmtS repaired .std e) = true ∧ sem (fmtS repaired .std e) = sem e) ∧
    (faithful (fmtH repaired o .std e) = true ∧ sem (fmtH repaired o .std e) = sem e) :=
  let s := fmtS_good e .std .top rfl hf rfl
  let h := fmtH_good o .std .top e rfl hf rfl
  ⟨⟨s.faithful, s.sem⟩, ⟨h.faithful, h.sem⟩⟩

/-- **meaning through the parser**: what the parser reads from the printed output means what it
reads from the printed input (both layout paths, every oracle, enough fuel) -/
theorem C02_expr_parsed (o : Oracle) (e : Expr) (hf : faithful e = true) :
    ∃ n, ∀ f, n ≤ f →
      (Parser.parse f (Parser.print (fmtS repaired .std e))).map sem = (Parser.parse f (Parser.print e)).map sem ∧
      (Parser.parse f (Parser.print (fmtH repaired o .std e))).map sem = (Parser.parse f (Parser.print e)).map sem := by
  obtain ⟨⟨hs1, hs2⟩, ⟨hh1, hh2⟩⟩ := C02_expr o e hf
  obtain ⟨n, hn⟩ := ParserLemmas.eventually_and (ParserLemmas.parse_print e hf)
    (ParserLemmas.eventually_and (ParserLemmas.parse_print _ hs1) (ParserLemmas.parse_print _ hh1))
  refine ⟨n, fun f hle => ?_⟩
  obtain ⟨h0, h1, h2⟩ := hn f hle
  rw [h0, h1, h2]
  simp [hs2, hh2]

/-- the same at operand positions (what `format_expression_internal` is called with) -/
theorem C02_expr_at (o : Oracle) (ctx : Ctx) (p : Pos) (e : Expr) (hd : dropOK ctx p = true)
    (hf : faithful e = true) (hok : okAt p e = true) :
    sem (fmtS repaired ctx e) = sem e ∧ sem (fmtH repaired o ctx e) = sem e :=
  ⟨(fmtS_good e ctx p hd hf hok).sem, (fmtH_good o ctx p e hd hf hok).sem⟩

/-- single value of an expression (conditions, operands): truncation is a no-op there -/
def semSingle : Sem → Sem
  | .trunc s => s
  | s => s

/-- **condition parentheses** (`if (x) then`): removing them keeps the single value -/
theorem C02_cond (e : Expr) : semSingle (sem (stripCond e)) = semSingle (sem e) := by
  cases e with
  | paren x => simp only [stripCond, sem]; cases sem x <;> rfl
  | _ => rfl

/-- **string literals** denote the same bytes (Lua 5.1 reading; total) -/
theorem C02_string_51 (style : StrLit.QuoteStyle) (b : List Char) :
    StrVal.decode51 (StrLit.rewrite style b).2 = StrVal.decode51 b :=
  (StrLitLemmas.scan_sim51 _ b).1

/-- … and the same bytes in the Lua 5.2+ / Luau reading whenever the input has one -/
theorem C02_string_52 (style : StrLit.QuoteStyle) (b : List Char) (v : List Nat)
    (h : StrVal.decode52 b = some v) : StrVal.decode52 (StrLit.rewrite style b).2 = some v :=
  StrLitLemmas.scan_sim52 _ b .norm rfl v h

/-- **numbers**: only a `0` is put in front of a leading `.` -/
theorem C02_number (t : List Char) :
    StrLit.rewriteNumber t = t ∨ StrLit.rewriteNumber t = '0' :: t ∨
    (∃ r, t = '-' :: '.' :: r ∧ StrLit.rewriteNumber t = '-' :: '0' :: '.' :: r) :=
  StrLitLemmas.rewriteNumber_cases t

/-- **Luau types keep their meaning**: whatever parentheses the type-parenthesis rule drops, in every
context and for every layout oracle (which parenthesised types go multi-line), the formatted
type denotes the type that was written - parentheses forgotten except a one-element pack as a
generic argument, unions of unions and intersections of intersections flattened -/
theorem C02_type_meaning (o : List Nat → Bool) (p : List Nat) (c : TypeParen.Ctx) (t : TypeParen.Ty) :
    TypeSpec.sem (TypeParen.fmtT TypeParen.current o p c t) = TypeSpec.sem t :=
  TypeLemmas.sem_fmtT o t p c

/-- … and it can still be read back: if the written type was well-formed at its position and the
context records at least what that position demands (it does: flags only accumulate on the
way down, `format_type_info` starts from the empty context at a delimited position), then so is
the formatted type, at every depth -/
theorem C02_type_reparses (o : List Nat → Bool) (p : List Nat) (c : TypeParen.Ctx) (pos : TypeSpec.Pos)
    (t : TypeParen.Ty) (hw : TypeSpec.wf pos t = true) (hc : TypeSpec.covers c pos = true) :
    TypeSpec.wf pos (TypeParen.fmtT TypeParen.current o p c t) = true :=
  TypeLemmas.wf_fmtT o t pos p c hw hc

/-- the entry point: `format_type_info` (empty context, delimited position) -/
theorem C02_type_entry (o : List Nat → Bool) (t : TypeParen.Ty) (hw : TypeSpec.wf .top t = true) :
    TypeSpec.wf .top (TypeParen.fmtT TypeParen.current o [] TypeParen.Ctx.new t) = true ∧
    TypeSpec.sem (TypeParen.fmtT TypeParen.current o [] TypeParen.Ctx.new t) = TypeSpec.sem t :=
  ⟨TypeLemmas.wf_fmtT o t .top [] _ hw rfl, TypeLemmas.sem_fmtT o t [] _⟩

/-- why the context must travel into a dropped parenthesis: formatting the content of `((() -> A))?`
in a fresh context (the seeded change C02b) yields `() -> A?`, a function returning an optional -/
theorem C02_type_fresh_context_violates :
    let t : TypeParen.Ty := .opt (.paren (.paren (.fn [] (.basic 0))))
    let bad := TypeParen.fmtT { ctxIntoParen := false } (fun _ => false) [] TypeParen.Ctx.new t
    let good := TypeParen.fmtT TypeParen.current (fun _ => false) [] TypeParen.Ctx.new t
    bad = .opt (.fn [] (.basic 0)) ∧ TypeSpec.wf .top bad = false ∧
    good = .opt (.paren (.fn [] (.basic 0))) ∧ TypeSpec.wf .top good = true := ⟨rfl, rfl, rfl, rfl⟩

example : TypeSpec.wf .top (.union [.basic 0, .paren (.union [.basic 1, .opt (.basic 2)])]) = true := by decide +kernel
example : TypeParen.fmtT TypeParen.current (fun _ => false) [] TypeParen.Ctx.new
    (.union [.basic 0, .paren (.union [.basic 1, .opt (.basic 2)])]) = .union [.basic 0, .union [.basic 1, .opt (.basic 2)]] := rfl
example : faithful (bin .star (paren (bin .plus (atom 0) (call 1))) (paren (atom 2))) = true := by decide +kernel
example : fmtS repaired .std (bin .star (paren (bin .plus (atom 0) (call 1))) (paren (atom 2)))
    = bin .star (paren (bin .plus (atom 0) (call 1))) (atom 2) := by decide +kernel

/-- **same statements in the same order**: format_block emits exactly one result per statement of the block, in
the order written - whatever the range, the ignore directives and the semicolons - for blocks of any length
(require sorting, the one mechanism that reorders, is C12) -/
theorem C02_stmt_order (r : Option Block.Range) (b : List Block.Stmt) :
    (Block.fmtBlock Block.repaired r b).map (·.id) = b.map (·.id) :=
  BlockLemmas.ids_preserved Block.repaired r false true b

end StyluaModel.C02
