/-
C20 — An option means the same thing wherever it is written (the option tables of the four
carriers, re-extracted from the source on every run by tools/translate.py).
Property theorems (all by computation over the generated tables) and examples only.
-/
import StyluaModel.Generated.Options

namespace StyluaModel.C20
open StyluaModel.Generated

/-- **flag = library**: every command-line option enum has exactly the variants of the library
enum it converts into, in the same order (the conversion is by name) -/
theorem C20_cli_eq_lib : ∀ e ∈ cliEnums, libEnums.lookup e.1 = some e.2 := by decide +kernel

/-- … and every library option enum has a command-line mirror -/
theorem C20_lib_has_cli : ∀ e ∈ libEnums, (cliEnums.lookup e.1).isSome = true := by decide +kernel

/-- **every `Config` field can be overridden from the command line** (except the deprecated
`no_call_parentheses`, superseded by `call_parentheses`) -/
theorem C20_overrides_total : ∀ f ∈ configFields, f = "no_call_parentheses" ∨ f ∈ overrideFields := by decide +kernel

/-- the .editorconfig loader covers every field but `syntax` (and the deprecated one) -/
theorem C20_editorconfig_fields :
    ∀ f ∈ configFields, f = "no_call_parentheses" ∨ f = "syntax" ∨ f ∈ editorconfigFields := by decide +kernel

/-- **.editorconfig spellings are the lower-cased variant names** -/
theorem C20_ec_names : ∀ k ∈ ecChoices, ∀ p ∈ k.2, p.1.map Char.toLower = p.2 := by decide +kernel

/-- … and, where the key names a library enum, the variants are variants of that enum -/
theorem C20_ec_variants :
    (∀ p ∈ (ecChoices.lookup "call_parentheses").getD [], String.ofList p.1 ∈ (libEnums.lookup "CallParenType").getD []) ∧
    (∀ p ∈ (ecChoices.lookup "space_after_function_names").getD [], String.ofList p.1 ∈ (libEnums.lookup "SpaceAfterFunctionNames").getD []) ∧
    (∀ p ∈ (ecChoices.lookup "collapse_simple_statement").getD [], String.ofList p.1 ∈ (libEnums.lookup "CollapseSimpleStatement").getD []) := by
  decide +kernel

/-- **unknown keys are rejected**: the configuration structs deny unknown fields -/
theorem C20_deny_unknown : denyUnknownFields = true := by decide +kernel

example : cliEnums.length = 7 ∧ configFields.length = 11 ∧ ecChoices.length = 5 := by decide +kernel

end StyluaModel.C20
