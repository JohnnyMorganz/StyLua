/-
C05 — Parentheses are dropped only where they cannot matter.
Property theorems and non-vacuity examples only; helper lemmas are in Lemmas/Paren.lean.

`fmtS` = format_expression_internal (single-line path), `fmtH`/`hangBin` =
format_hanging_expression_/hang_binop_expression with every layout answer taken from an
arbitrary `Oracle`.  `repaired` is the code after the five `fix:` commits of this round;
`pinned` is the code before them (kept to show, by computation, that it violated C05).
-/
import StyluaModel.Lemmas.Parser
import StyluaModel.Lemmas.ParenIdem
import StyluaModel.Generated.OpTables

namespace StyluaModel.C05
open StyluaModel StyluaModel.ParenRule StyluaModel.Prec StyluaModel.ParenLemmas Expr

/-- **C05, single-line path.** For every context, every position the context is used at,
and every faithful expression that may stand at that position: the result is faithful
(prints and re-parses to itself: operator grouping kept, no `- -` exposed, no type
assertion detached), may stand at the same position, means the same (`sem`: parentheses
forgotten except multi-value truncation), and is not more open-ended than the input. -/
theorem C05_single (ctx : Ctx) (p : Pos) (e : Expr) (hd : dropOK ctx p = true)
    (hf : faithful e = true) (hok : okAt p e = true) :
    faithful (fmtS repaired ctx e) = true ∧ okAt p (fmtS repaired ctx e) = true ∧
    sem (fmtS repaired ctx e) = sem e :=
  let g := fmtS_good e ctx p hd hf hok
  ⟨g.faithful, g.okAt, g.sem⟩

/-- **C05, hanging path, for every layout oracle** (every column width, indent, identifier
length, comment placement). -/
theorem C05_hang (o : Oracle) (ctx : Ctx) (p : Pos) (e : Expr) (hd : dropOK ctx p = true)
    (hf : faithful e = true) (hok : okAt p e = true) :
    faithful (fmtH repaired o ctx e) = true ∧ okAt p (fmtH repaired o ctx e) = true ∧
    sem (fmtH repaired o ctx e) = sem e :=
  let g := fmtH_good o ctx p e hd hf hok
  ⟨g.faithful, g.okAt, g.sem⟩

/-- the same for hang_binop_expression entered directly -/
theorem C05_hang_binop (o : Oracle) (ctx : Ctx) (p : Pos) (e : Expr) (hs : ctx ≠ .std)
    (hd : dropOK ctx p = true) (hf : faithful e = true) (hok : okAt p e = true) :
    faithful (hangBin repaired o ctx e) = true ∧ sem (hangBin repaired o ctx e) = sem e :=
  let g := (hang_good e).2 o ctx p hs hd hf hok
  ⟨g.faithful, g.sem⟩

/-- **Entry points** (assignment / local / return right-hand sides, call arguments, table
fields, index and key expressions): `format_expression` or `hang_expression`, Standard
context, at a delimited position — no side condition beyond faithfulness of the input. -/
theorem C05_entry_std (e : Expr) (hf : faithful e = true) :
    (faithful (fmtS repaired .std e) = true ∧ sem (fmtS repaired .std e) = sem e) ∧
    ∀ o, faithful (fmtH repaired o .std e) = true ∧ sem (fmtH repaired o .std e) = sem e :=
  ⟨let g := C05_single .std .top e rfl hf rfl; ⟨g.1, g.2.2⟩,
   fun o => let g := C05_hang o .std .top e rfl hf rfl; ⟨g.1, g.2.2⟩⟩

/-- prefix expressions `(e).x`, `(e)()`: the parentheses are kept -/
theorem C05_prefix (e : Expr) : fmtS repaired .prefix (paren e) = paren (fmtS repaired .std e) ∧
    ∀ o, ∃ r, fmtH repaired o .prefix (paren e) = paren r := by
  have hk : ¬ (checkExcess e .prefix = true ∧ ¬ keepParens .prefix = true) := fun h => h.2 rfl
  refine ⟨by rw [fmtS_paren, if_neg hk], fun o => ?_⟩
  simp only [fmtH, if_neg hk]
  split <;> exact ⟨_, rfl⟩

/-- value of an expression used as a condition (single value: truncation is a no-op) -/
def semCond : Sem → Sem
  | .trunc s => s
  | s => s

/-- conditions: `remove_condition_parentheses` -/
theorem C05_cond (e : Expr) : semCond (sem (stripCond e)) = semCond (sem e) := by
  cases e with
  | paren x => simp only [stripCond, sem]; cases sem x <;> rfl
  | _ => rfl

/-- **truncation is never undone**: a `(f())` / `(...)` stays one -/
theorem C05_trunc (o : Oracle) (e : Expr) (s : Sem) (hf : faithful e = true) (h : sem e = .trunc s) :
    sem (fmtS repaired .std e) = .trunc s ∧ sem (fmtH repaired o .std e) = .trunc s := by
  obtain ⟨⟨_, h1⟩, h2⟩ := C05_entry_std e hf
  exact ⟨h1.trans h, (h2 o).2.trans h⟩

/-- no unary minus directly applied to a unary minus anywhere in the tree -/
def noMinusMinus : Expr → Bool
  | un op e => !(op == .minus && Prec.isUnMinus e) && noMinusMinus e
  | paren e => noMinusMinus e
  | bin _ l r => noMinusMinus l && noMinusMinus r
  | assert e => noMinusMinus e
  | _ => true

/-- the predicate under which Props/C06 proves the rule idempotent -/
theorem noMinusMinus_eq (e : Expr) : noMinusMinus e = ParenIdem.noMM e := by
  induction e with
  | un op e ih => rw [noMinusMinus, ParenIdem.noMM, isUnMinus_eq, ih]
  | paren e ih | assert e ih => exact ih
  | bin op l r ihl ihr => rw [noMinusMinus, ParenIdem.noMM, ihl, ihr]
  | _ => rfl

theorem noMinusMinus_of_faithful (e : Expr) (h : faithful e = true) : noMinusMinus e = true :=
  noMinusMinus_eq e ▸ ParenIdem.noMM_of_faithful e h

/-- **a unary minus is never exposed to a preceding minus** (`--` would start a comment) -/
theorem C05_minus (o : Oracle) (e : Expr) (hf : faithful e = true) :
    noMinusMinus (fmtS repaired .std e) = true ∧ noMinusMinus (fmtH repaired o .std e) = true :=
  ⟨noMinusMinus_of_faithful _ (C05_entry_std e hf).1.1, noMinusMinus_of_faithful _ ((C05_entry_std e hf).2 o).1⟩

/-! ## The code before the repairs violated the property (proved by computation) -/

/-- D22: `((-a)) ^ b` on the single-line path -/
theorem C05_pinned_single_violates :
    let e := bin .caret (paren (paren (un .minus (atom 0)))) (atom 1)
    faithful e = true ∧ faithful (fmtS pinned .std e) = false := by decide

/-- D1: `(-a) ^ b` on the hanging path (any oracle; here the empty one) -/
theorem C05_pinned_hang_violates :
    let e := bin .caret (paren (un .minus (atom 0))) (atom 1)
    faithful e = true ∧ faithful (fmtH pinned .leaf .std e) = false := by decide

/-- D2: `-(-a)` on the hanging path -/
theorem C05_pinned_minus_violates :
    let e := un .minus (paren (un .minus (atom 0)))
    faithful e = true ∧ noMinusMinus (fmtH pinned .leaf .std e) = false := by decide

/-- D28: `c + (-a) ^ b` with a comment inside the parentheses (oracle bit `commentsL`) -/
theorem C05_pinned_hang_comment_violates :
    let e := bin .plus (atom 2) (bin .caret (paren (un .minus (atom 0))) (atom 1))
    let o := Oracle.node false false false false .leaf (.node false false true false .leaf .leaf)
    faithful e = true ∧
    faithful (fmtH { ctxThroughDrop := true, hangMinusGuard := true, hangLhsExp := false, hangRhsOperand := true } o .std e) = false := by
  decide

/-- D30: `a and (b :: T) < c` on the hanging path: the assertion lost its parentheses and
`T < c` reads as a generic type -/
theorem C05_pinned_hang_assert_violates :
    let e := bin .and (atom 0) (bin .lt (paren (assert (atom 1))) (atom 2))
    let o := Oracle.node false false false false .leaf (.node false false true false .leaf .leaf)
    faithful e = true ∧
    faithful (fmtH { ctxThroughDrop := true, hangMinusGuard := true, hangLhsExp := true, hangRhsOperand := false } o .std e) = false := by
  decide

/-- **the printed tokens determine the tree**: two faithful trees with the same printed form are
the same tree - so whenever StyLua's output (faithful by `C05_single` / `C05_hang`) has the
tokens of a faithful input apart from parentheses it may drop, no regrouping can hide in it -/
theorem C05_tokens_determine_tree (e1 e2 : Expr) (h1 : faithful e1 = true) (h2 : faithful e2 = true)
    (hp : Parser.print e1 = Parser.print e2) : e1 = e2 := by
  obtain ⟨n, hn⟩ := ParserLemmas.eventually_and (ParserLemmas.parse_print e1 h1) (ParserLemmas.parse_print e2 h2)
  have ⟨a, b⟩ := hn n (Nat.le_refl n)
  rw [hp, b] at a
  exact (Option.some.inj a).symm

/-- **round trip through the parser** for everything the parenthesis rule emits (both paths) -/
theorem C05_parses_back (o : Oracle) (ctx : Ctx) (p : Pos) (e : Expr) (hd : dropOK ctx p = true)
    (hf : faithful e = true) (hok : okAt p e = true) :
    (∃ n, ∀ f, n ≤ f → Parser.parse f (Parser.print (fmtS repaired ctx e)) = some (fmtS repaired ctx e)) ∧
    (∃ n, ∀ f, n ≤ f → Parser.parse f (Parser.print (fmtH repaired o ctx e)) = some (fmtH repaired o ctx e)) :=
  ⟨ParserLemmas.parse_print _ (C05_single ctx p e hd hf hok).1, ParserLemmas.parse_print _ (C05_hang o ctx p e hd hf hok).1⟩

/-! ## non-vacuity: concrete non-trivial inputs meeting the hypotheses -/
example : faithful (bin .caret (paren (paren (un .minus (atom 0)))) (call 1)) = true := by decide
example : fmtS repaired .std (bin .caret (paren (paren (un .minus (atom 0)))) (call 1))
    = bin .caret (paren (un .minus (atom 0))) (call 1) := by decide
example : dropOK .binLhsExp (.binL .caret) = true ∧ okAt (.binL .caret) (paren (un .minus (atom 0))) = true := by decide
example : sem (paren (paren (call 3))) = .trunc (.call 3) := by decide
example : okAt (.binL .lt) (assert (atom 1)) = false ∧ okAt (.binL .lt) (paren (assert (atom 1))) = true := by decide

/-- name of an operator in the generated tables -/
def binOpName : BinOp → String
  | .caret => "caret" | .percent => "percent" | .slash => "slash" | .star => "star" | .dslash => "dslash"
  | .minus => "minus" | .plus => "plus" | .concat => "concat" | .shl => "shl" | .shr => "shr" | .band => "band"
  | .bxor => "bxor" | .bor => "bor" | .gt => "gt" | .ge => "ge" | .lt => "lt" | .le => "le" | .ne => "ne"
  | .eq => "eq" | .and => "and" | .or => "or"

/-- **the model's precedences and associativities are the ones the linked full_moon reports**
(`BinOp::precedence`, `BinOp::is_right_associative`, `UnOp::precedence`, observed through the harness and written
to `Generated/OpTables.lean` on every run): for every operator of the model -/
theorem C05_prec_table (op : BinOp) :
    (binOpName op, op.prec, op.rassoc) ∈ Generated.binOpPrec ∧ unPrec = Generated.unOpPrec ∧
    Generated.binOpPrec.length = 21 := by
  refine ⟨List.mem_of_getElem? (i := op.ctorIdx) ?_, rfl, rfl⟩
  -- the generated table lists the operators in the order of the constructors
  cases op <;> rfl

end StyluaModel.C05
