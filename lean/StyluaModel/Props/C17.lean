/-
C17 — stdin mode writes the formatted text to stdout and nothing else.
-/
import StyluaModel.Lemmas.Ignore
import StyluaModel.Model.Stdin

namespace StyluaModel.C17
open StyluaModel.Stdin

/-- **exactly the library's output** for input that parses (not check mode, not skipped) -/
theorem C17_formatted (fmt : List Nat → Option (List Nat)) (o : Opts) (input out : List Nat)
    (hc : o.check = false) (hs : (o.respectIgnores && o.stdinPathIgnored) = false) (hf : fmt input = some out) :
    run fmt o input = { stdout := .text out, exit := 0, writes := [] } := by
  simp [run, hc, hs, hf]

/-- **nothing on stdout and exit status 2 on a parse error** -/
theorem C17_parse_error (fmt : List Nat → Option (List Nat)) (o : Opts) (input : List Nat)
    (hs : (o.respectIgnores && o.stdinPathIgnored) = false) (hf : fmt input = none) :
    run fmt o input = { stdout := .nothing, exit := 2, writes := [] } := by
  simp [run, hs, hf]

/-- **an ignored --stdin-filepath under --respect-ignores passes the input through unchanged**
(even input that does not parse) -/
theorem C17_passthrough (fmt : List Nat → Option (List Nat)) (o : Opts) (input : List Nat)
    (hc : o.check = false) (hr : o.respectIgnores = true) (hi : o.stdinPathIgnored = true) :
    run fmt o input = { stdout := .text input, exit := 0, writes := [] } := by
  simp [run, hc, hr, hi]

/-- without --respect-ignores the ignore file plays no role -/
theorem C17_ignore_needs_flag (fmt : List Nat → Option (List Nat)) (o : Opts) (input : List Nat)
    (hr : o.respectIgnores = false) :
    run fmt o input = run fmt { o with stdinPathIgnored := false } input := by
  simp [run, hr]

/-- **never writes to the file system** -/
theorem C17_no_writes (fmt : List Nat → Option (List Nat)) (o : Opts) (input : List Nat) :
    (run fmt o input).writes = [] := by
  simp only [run]
  split
  · rfl
  · split
    · split <;> rfl
    · rfl

/-- check mode on stdin: a diff iff the text differs, exit 1 / 0 -/
theorem C17_check (fmt : List Nat → Option (List Nat)) (o : Opts) (input out : List Nat)
    (hc : o.check = true) (hs : (o.respectIgnores && o.stdinPathIgnored) = false) (hf : fmt input = some out) :
    run fmt o input = if out = input then { stdout := .nothing, exit := 0, writes := [] }
                      else { stdout := .diff, exit := 1, writes := [] } := by
  simp [run, hc, hs, hf]

/-- **`--respect-ignores` never aborts**: whatever ignore files exist and wherever the path named by
`--stdin-filepath` (or on the command line) lies - inside the current directory or not - the
question "is it ignored?" has an answer (after fix 8e8142f) -/
theorem C17_ignore_total (w : Ignore.World) (cwd : Ignore.Path) (spd : Bool) (p : Ignore.Path) :
    Ignore.pathIsIgnored Ignore.repaired w cwd spd p ≠ .panic := by
  unfold Ignore.pathIsIgnored
  split
  · simp
  · split
    · split <;> simp
    · simp [Ignore.repaired]

/-- the code as pinned aborted (exit status 101) for a path outside the current directory when only
the current directory has an ignore file -/
theorem C17_ignore_pinned_panics :
    let w : Ignore.World := { ignoreDirs := [[1]], matched := fun _ _ => false }
    Ignore.pathIsIgnored Ignore.pinned w [1] false [2, 3] = .panic ∧
    Ignore.pathIsIgnored Ignore.repaired w [1] false [2, 3] = .notIgnored := by decide +kernel

/-- **which ignore file is consulted**: the one of the path's own directory; with
`--search-parent-directories` the nearest one on the way up; failing both, the current directory's -/
theorem C17_ignore_consulted (w : Ignore.World) (cwd dir x : Ignore.Path) (spd : Bool)
    (h : Ignore.getIgnore w cwd dir spd = some x) :
    x ∈ w.ignoreDirs ∧
    ((x <+: dir ∧ (spd = false → x = dir) ∧
        (spd = true → ∀ d' ∈ w.ignoreDirs, d' <+: dir → d'.length ≤ x.length)) ∨
     (x = cwd ∧ Ignore.findIgnore w spd dir.length dir = none)) := by
  unfold Ignore.getIgnore at h
  split at h
  · rename_i d hd
    cases h
    obtain ⟨h1, h2, h3, h4⟩ := IgnoreLemmas.findIgnore_spec w spd _ _ _ hd
    exact ⟨h1, .inl ⟨h2, h3, fun _ => h4 (Nat.le_refl _)⟩⟩
  · rename_i hn
    obtain ⟨h1, _, h3, _⟩ := IgnoreLemmas.findIgnore_spec w false _ _ _ h
    exact ⟨h1, .inr ⟨h3 rfl, hn⟩⟩

example : run (fun i => if i = [9] then none else some (i ++ [0])) { check := false, respectIgnores := true, stdinPathIgnored := false } [1, 2]
    = { stdout := .text [1, 2, 0], exit := 0, writes := [] } := by decide +kernel

end StyluaModel.C17
