/-
C08 — `-- stylua: ignore` regions are reproduced verbatim.
The model is Model/Block.lean (`repaired` = the code after fix 3b97511; `pinned` = before).
-/
import StyluaModel.Lemmas.Block

namespace StyluaModel.C08
open StyluaModel.Block StyluaModel.BlockLemmas

/-- **which statements are skipped**: exactly those whose block has an open
`ignore start` (the last start/end line seen so far, through the statement's own leading
comments, is a start) or that carry `stylua: ignore` themselves — for every range. -/
theorem C08_region (r : Option Range) (b : List Stmt) :
    (fmtBlock repaired r b).map (fun o => isSkip o.decision) = specSkip [] b :=
  decisions_skip repaired r [] true b

/-- the flag starts cleared in every block (it cannot leak in from an enclosing or a
preceding block: `format_block` works on a copy of the context) and a single directive
always skips its statement -/
theorem C08_single (r : Option Range) (dis first : Bool) (s : Stmt) (rest : List Stmt)
    (h : s.lines.contains .ignore = true) :
    ((fmtStmts repaired r dis first (s :: rest)).head?.map (·.decision)) = some .skip := by
  simp only [fmtStmts, List.head?_cons, Option.map_some, outOf_decision, decide1, h, if_true, ite_self]

/-- **verbatim**: a statement that is not formatted keeps its semicolon exactly as written
and does not lose leading blank lines (its own tokens are returned untouched by
`format_stmt`: `stmt.to_owned()`). -/
theorem C08_verbatim (r : Option Range) (b : List Stmt) :
    ∀ p ∈ List.zip b (fmtBlock repaired r b),
      p.2.decision ≠ .normal → p.2.semi = p.1.semi ∧ p.2.stripped = false :=
  unformatted_kept r false true b

/-- **everything else is still formatted**: same statements in the same order, and a
formatted statement gets a semicolon exactly when the next one starts with `(`. -/
theorem C08_others_formatted (r : Option Range) (b : List Stmt) :
    (fmtBlock repaired r b).map (·.id) = b.map (·.id) ∧
    ∀ p ∈ List.zip b (fmtBlock repaired r b), isSkip p.2.decision = false → p.2.decision ≠ .skip := by
  refine ⟨ids_preserved repaired r false true b, ?_⟩
  intro p _ h hs
  rw [hs] at h
  cases h

/-- the code before the repair dropped the semicolon of an ignored statement (D3) -/
theorem C08_pinned_violates :
    let s : Stmt := { id := 0, kind := .localAssignment, startsParen := false, semi := true,
                      lines := [.ignore], start := 18, stop := 35 }
    (fmtBlock pinned none [s]).map (fun o => (o.decision, o.semi)) = [(.skip, false)] ∧
    (fmtBlock repaired none [s]).map (fun o => (o.decision, o.semi)) = [(.skip, true)] := by
  decide +kernel

example :
    let a : Stmt := { id := 0, kind := .call, startsParen := false, semi := false, lines := [.other, .ignoreStart], start := 0, stop := 5 }
    let b : Stmt := { id := 1, kind := .other, startsParen := false, semi := true, lines := [], start := 6, stop := 9 }
    let c : Stmt := { id := 2, kind := .call, startsParen := true, semi := false, lines := [.ignoreEnd], start := 10, stop := 15 }
    (fmtBlock repaired none [a, b, c]).map (fun o => (o.decision, o.semi))
      = [(.skip, false), (.skip, true), (.normal, false)] := by decide +kernel

end StyluaModel.C08
