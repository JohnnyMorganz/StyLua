/-
C07 — The formatter is total (the parts a model can carry: the inventory of panic-capable
sites, and the cost recurrences of nested inputs).
Property theorems and non-vacuity examples only.
-/
import StyluaModel.Generated.PanicSites
import StyluaModel.Model.PanicClass
import StyluaModel.Model.Cost
import StyluaModel.Model.ParenRule
import StyluaModel.Model.Block
import StyluaModel.Model.Trivia

namespace StyluaModel.C07
open StyluaModel

/-- **every panic-capable site is accounted for**: the sites found in the current source that
are neither `unknown node` catch-alls nor constant unwraps are exactly the classified ones
(same functions, same kinds, same multiplicities). A new `unwrap`, `panic!`, `assert!` … in
the library breaks this theorem. -/
theorem C07_sites_classified : Generated.manualSites = PanicClass.classified.map (·.1) := by rfl

/-- the sites whose guard is a property of their callers (run on the real code by ring 3) -/
theorem C07_open_sites : PanicClass.openSites.length = 7 := by decide +kernel

/-- **nested method chains cost exponentially many formatter entries** (known finding D20):
`chain d = (d-1)·2^d + 1` for d ≥ 1, hence at least 2^d -/
theorem C07_chain_closed (d : Nat) : Cost.chain (d + 1) = d * 2 ^ (d + 1) + 1 := by
  induction d with
  | zero => rfl
  | succ n ih =>
    -- in terms of `q = n * 2 ^ (n + 1)` and `p = 2 ^ (n + 1)` the step reads
    -- `2 * (q + 1) + p * 2 - 1 = q * 2 + p * 2 + 1`
    rw [Cost.chain, ih, Nat.pow_succ 2 (n + 1), Nat.add_mul n 1, Nat.one_mul, ← Nat.mul_assoc]
    exact Nat.sub_eq_of_eq_add (by omega)

theorem C07_cost_exp (d : Nat) : 2 ^ d ≤ Cost.chain d + 1 := by
  cases d with
  | zero => decide
  | succ n =>
    rw [C07_chain_closed]
    cases n with
    | zero => decide
    | succ m => exact Nat.le_succ_of_le (Nat.le_add_right_of_le (Nat.le_mul_of_pos_left _ (Nat.succ_pos m)))

/-- **plain nested calls stay polynomial**: d(d+1)/2 entries -/
theorem C07_poly_calls (d : Nat) : 2 * Cost.call d = d * (d + 1) := by
  induction d with
  | zero => rfl
  | succ n ih =>
    rw [Cost.call, Nat.mul_add, ih, ← Nat.add_mul, Nat.mul_comm]

/-- **the models are total functions**: the decision procedures mirrored from the code are
accepted by Lean without `partial` and without fuel (structural recursion on the syntax tree /
statement list / trivia list), e.g. they evaluate on arbitrary inputs -/
theorem C07_models_total :
    (∀ v ctx e, ∃ r, ParenRule.fmtS v ctx e = r) ∧ (∀ v o ctx e, ∃ r, ParenRule.fmtH v o ctx e = r) ∧
    (∀ v r b, ∃ o, Block.fmtBlock v r b = o) ∧ (∀ eol p t, ∃ o, Trivia.load eol p t = o) :=
  ⟨fun _ _ _ => ⟨_, rfl⟩, fun _ _ _ _ => ⟨_, rfl⟩, fun _ _ _ => ⟨_, rfl⟩, fun _ _ _ => ⟨_, rfl⟩⟩

example : Cost.chain 11 = 20481 ∧ Cost.call 11 = 66 := by decide +kernel

end StyluaModel.C07
